-- Root of the `Serif` library: models, proofs, property theorems, driver handlers.
-- (The translation ties `Serif.Tie.*` and their generated inputs `Serif.Gen.Translated*` are built by name, one check at a time.)
import Serif.Prelude
import Serif.Wire
import Serif.Gen.Consts
import Serif.Model.AliasHeap
import Serif.Model.Assign
import Serif.Model.Csv
import Serif.Model.CsvLex
import Serif.Model.DType
import Serif.Model.Expr
import Serif.Model.Fingerprint
import Serif.Model.Group
import Serif.Model.Index
import Serif.Model.Join
import Serif.Model.Names
import Serif.Model.ObjHeap
import Serif.Model.Repr
import Serif.Model.Sort
import Serif.Model.Tab
import Serif.Model.Vec
import Serif.Proofs.AliasHeap
import Serif.Proofs.AliasTracker
import Serif.Proofs.Assign
import Serif.Proofs.AssignSpec
import Serif.Proofs.Csv
import Serif.Proofs.CsvLex
import Serif.Proofs.CsvLexU
import Serif.Proofs.DType
import Serif.Proofs.Dict
import Serif.Proofs.Expr
import Serif.Proofs.Fingerprint
import Serif.Proofs.FpHeap
import Serif.Proofs.Group
import Serif.Proofs.HeapRect
import Serif.Proofs.Index
import Serif.Proofs.Join
import Serif.Proofs.Lattice
import Serif.Proofs.Names
import Serif.Proofs.ObjHeap
import Serif.Proofs.Repr
import Serif.Proofs.Sort
import Serif.Proofs.Tab
import Serif.Proofs.Uniquify
import Serif.Proofs.Util
import Serif.Proofs.Vec
import Serif.Props.C01
import Serif.Props.C02
import Serif.Props.C03
import Serif.Props.C04
import Serif.Props.C05
import Serif.Props.C06
import Serif.Props.C07
import Serif.Props.C08
import Serif.Props.C09
import Serif.Props.C10
import Serif.Props.C11
import Serif.Props.C12
import Serif.Props.C13
import Serif.Props.C14
import Serif.Props.C15
import Serif.Props.C16
import Serif.Props.C17
import Serif.Props.C18
import Serif.Props.C19
import Serif.Props.C20
import Serif.Drive.C01
import Serif.Drive.C02
import Serif.Drive.C03
import Serif.Drive.C04
import Serif.Drive.C05
import Serif.Drive.C06
import Serif.Drive.C07
import Serif.Drive.C08
import Serif.Drive.C09
import Serif.Drive.C10
import Serif.Drive.C11
import Serif.Drive.C12
import Serif.Drive.C13
import Serif.Drive.C14
import Serif.Drive.C15
import Serif.Drive.C16
import Serif.Drive.C17
import Serif.Drive.C18
import Serif.Drive.C19
import Serif.Drive.C20
import Serif.Drive.Expr
import Serif.Drive.Join
