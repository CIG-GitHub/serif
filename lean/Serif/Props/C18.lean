/-
  C18 — names propagate by fixed rules: math drops them, structure keeps them; for every composition.

  `X.nameRule san op shapes` : the rule of one operation — a function of the operands' names and row counts only
                               (never of element values, dtypes or history).
  `X.specNames ρ e`          : names of the result of program `e`, computed compositionally from the rules.
  `X.eval ρ e`               : the model of what the code does (names are carried by every constructor call).
-/
import Serif.Proofs.Expr
import Serif.Gen.Consts

namespace Serif.C18
open Serif.X

/-- one operation: the names of whatever it returns are given by its rule -/
theorem step_names (ρ : Oracle) (op : Op) (args : List Obj) (o : Obj) (h : step ρ op args = .ok o) :
    o.names = nameRule ρ.san op (args.map Obj.sh) := X.step_names ρ op args o h

/-- every program: the names the code produces are the names the rules prescribe (structural induction;
    possible because no rule depends on history) -/
theorem names_eq_spec (ρ : Oracle) (e : Expr) (o : Obj) (h : eval ρ e = .ok o) :
    o.names = specNames ρ e := by
  refine eval_induction ρ (P := fun e o => o.names = specNames ρ e) (Q := fun es os => os.map Obj.sh = specShs ρ es)
    ?_ rfl ?_ e o h
  · -- a node: the rule of the operation, on the operands' shapes as the hypothesis for the argument list gives them
    intro op args os o ih h
    rw [specNames, ← ih]
    exact X.step_names ρ op os o h
  · -- one more argument: its names by hypothesis, its row count from its value
    intro e es o os he ho hos
    simp only [List.map_cons, specShs, ← hos, ← ho, rows, he]
    rfl

/-- binary arithmetic and comparisons (vector, scalar, list, reflected) give unnamed results -/
theorem math_drops_name (san : String → Option String) (aop : AOp) (s : Nat) (o : Other) (args : List Sh) :
    nameRule san (.arith aop s) args = .vec none ∧ nameRule san (.arithO aop s o) args = .vec none ∧
    nameRule san (.cmp s) args = .vec none ∧ nameRule san (.cmpO s o) args = .vec none := ⟨rfl, rfl, rfl, rfl⟩

/-- copy, slicing, masking, sorting, in-place writes and promotion keep the vector's name -/
theorem structure_keeps_name (san : String → Option String) (n : Option String) (len : Nat)
    (idx p : List Nat) (m : List Bool) (ups : List (Nat × Tag)) :
    nameRule san .copy [⟨.vec n, len⟩] = .vec n ∧ nameRule san (.getIdx idx) [⟨.vec n, len⟩] = .vec n ∧
    nameRule san (.getMask m) [⟨.vec n, len⟩] = .vec n ∧ nameRule san (.sortV p) [⟨.vec n, len⟩] = .vec n ∧
    nameRule san (.setitem ups) [⟨.vec n, len⟩] = .vec n := ⟨rfl, rfl, rfl, rfl, rfl⟩

/-- table-with-scalar arithmetic keeps every column name; table-with-table arithmetic keeps the left name exactly
    when the right name is absent or equal -/
theorem table_arith_names (san : String → Option String) (aop : AOp) (s : Nat) (o : Other)
    (ls rs : List (Option String)) (n m : Nat) :
    nameRule san (.tarithO aop s o) [⟨.tab ls, n⟩] = .tab ls ∧
    nameRule san (.tarith aop s) [⟨.tab ls, n⟩, ⟨.tab rs, m⟩] = .tab (zipResolve ls rs) := ⟨rfl, rfl⟩

/-- `_resolve_binary_name` is this `if`: an equation, true by definition (the "iff" of the name is the `if`'s condition) -/
theorem resolve_keeps_left_iff (l r : Option String) :
    resolveBinaryName l r = (if r = none ∨ r = l then l else none) := rfl

/-- construction from vectors, `>>`, row filters, sorting and joins keep each source column's name, in order -/
theorem table_structure_names (san : String → Option String) (ls rs : List (Option String)) (n m : Nat)
    (hl : ls ≠ []) (idx p : List Nat) (k : JoinKind) (pairs : List (Option Nat × Option Nat)) (hp : pairs ≠ [])
    (hn : n ≠ 0) :
    nameRule san .rshift [⟨.tab ls, n⟩, ⟨.tab rs, m⟩] = .tab (ls ++ rs) ∧
    nameRule san (.rowIdx idx) [⟨.tab ls, n⟩] = .tab ls ∧
    nameRule san (.sortT p) [⟨.tab ls, n⟩] = .tab ls ∧
    nameRule san (.join k pairs) [⟨.tab ls, n⟩, ⟨.tab rs, m⟩] = .tab (ls ++ rs) := by
  refine ⟨?_, ?_, rfl, ?_⟩
  · simp [nameRule, shCols, Names.cols, ofCols, hl]
  · simp [nameRule, shCols, Names.cols, ofCols, hl]
  · cases k <;> simp [nameRule, shCols, Names.cols, hl, hp, hn]

/-- key names come first, then one name per aggregation; every output is its candidate
    (`name or "key"`, `<sanitised column>_<function>`, or the given `apply` name) followed by nothing or by
    a numeric suffix ≥ 2 -/
theorem agg_names_form (san : String → Option String) (cols : List (Option String)) (a : AggArgs) :
    (aggNames san cols a).length = a.keys.length + a.flat.length ∧
    ∀ p ∈ (aggCands san cols a).zip (aggNames san cols a),
      p.2 = p.1 ∨ ∃ j, 2 ≤ j ∧ p.2 = p.1 ++ toString j :=
  ⟨aggNames_length san cols a, uniqAll_form [] _⟩

/-- the output names are pairwise distinct, whatever the argument list (same column twice, a key named like an
    output, an `apply` name equal to a generated one) -/
theorem agg_names_nodup (san : String → Option String) (cols : List (Option String)) (a : AggArgs) :
    (aggNames san cols a).Nodup := uniqAll_nodup [] _

/-- the `while f"{name}{i}" in used` loop ends within `len(used) + 1` iterations: the model's fuel suffices,
    and what it returns is not in `used` -/
theorem uniquify_terminates (used : List String) (name : String) :
    (∃ c, findFresh name used (used.length + 1) 2 = some c) ∧ uniquify used name ∉ used :=
  ⟨⟨_, findFresh_eq_uniqLoop name used⟩, (uniquify_spec used name).1⟩

/-- `_resolve_binary_name`, executed on {None, 'a', 'b'}², is the model's `resolveBinaryName` -/
theorem resolve_table_agrees :
    ∀ e ∈ Gen.resolveBinaryNameTable, resolveBinaryName e.1 e.2.1 = e.2.2 := by decide +kernel

-- (a + b)[mask] of two named vectors is unnamed; a slice of a named vector keeps its name
example :
    specNames silent (.node (.getMask [true, false])
      (.cons (.node (.arith .gen 0) (.cons (.node (.leaf [.none, .none] (some "a")) .nil)
        (.cons (.node (.leaf [.none, .none] (some "b")) .nil) .nil))) .nil)) = .vec none := by rfl
example :
    (eval silent (.node (.getIdx [1]) (.cons (.node (.leaf [.ty .int, .ty .str] (some "a")) .nil) .nil))).toOption.map Obj.names
      = some (.vec (some "a")) := by rfl
-- the same column aggregated twice, and a key named like an output
example :
    aggNames (fun s => some s) [some "b_sum", some "b"]
      ⟨[0, 0], [1, 1], [], [], [], [], [], [("b_sum", 1)]⟩ = ["b_sum", "b_sum2", "b_sum3", "b_sum4", "b_sum5"] := by decide +kernel
example : Gen.resolveBinaryNameTable.length = 9 := by decide

end Serif.C18
