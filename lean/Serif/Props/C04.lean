/- C04 — dtype inference and promotion form an order-independent lattice. -/
import Serif.Proofs.DType
import Serif.Gen.Consts

namespace Serif.C04

theorem join_comm (a b : Kind) : a.join b = b.join a := Kind.join_comm a b
theorem join_assoc (a b c : Kind) : (a.join b).join c = a.join (b.join c) := Kind.join_assoc a b c
theorem join_idem (a : Kind) : a.join a = a := Kind.join_idem a

/-- every kind is below `object` -/
theorem join_object (a : Kind) : a.join .object = .object := Kind.join_object a

/-- the numeric and the temporal ladder; kinds on different chains, and two different user classes, meet only at `object` -/
theorem ladders :
    Kind.le .bool .int ∧ Kind.le .int .float ∧ Kind.le .float .complex ∧ Kind.le .date .datetime ∧
    Kind.join .int .str = .object ∧ Kind.join .date .int = .object ∧
    ∀ n m, n ≠ m → Kind.join (.other n) (.other m) = .object :=
  ⟨rfl, rfl, rfl, rfl, rfl, rfl, fun n m h => Kind.join_of_chain_ne (by simpa [Kind.chain] using h)⟩

/-- the loop of `infer_dtype` computes the specification -/
theorem infer_eq_spec (l : List Tag) : infer l = inferSpec l := _root_.Serif.infer_eq_spec l

/-- the result depends only on *which* types occur (and whether None occurs):
    neither length, multiplicity nor position matters -/
theorem infer_depends_on_type_set {l₁ l₂ : List Tag} (h : ∀ t, t ∈ l₁ ↔ t ∈ l₂) :
    infer l₁ = infer l₂ := by
  rw [infer_eq_spec, infer_eq_spec]
  exact inferSpec_congr h

/-- order independence: permuting the elements never changes the inferred dtype -/
theorem infer_perm {l₁ l₂ : List Tag} (h : l₁.Perm l₂) : infer l₁ = infer l₂ :=
  infer_depends_on_type_set fun _ => h.mem_iff

/-- None only ever adds nullability -/
theorem infer_nullable_iff (l : List Tag) (h : kindsOf l ≠ []) :
    (infer l).nullable = true ↔ Tag.none ∈ l := by
  rw [infer_eq_spec]; unfold inferSpec
  cases hk : kindsOf l with
  | nil => exact absurd hk h
  | cons k ks => simp

/-- promoting never narrows the kind and never drops nullability -/
theorem promote_monotone (d : DType) (t : Tag) :
    Kind.le d.kind (promote d t).kind ∧ (d.nullable = true → (promote d t).nullable = true) := by
  cases t with
  | none =>
    rw [promote_none]
    exact ⟨Kind.le_refl _, fun _ => rfl⟩
  | ty v =>
    rw [promote_ty]
    exact ⟨Kind.le_join_left _ _, fun h => h⟩

/-- promoting twice with the same value is promoting once -/
theorem promote_idempotent (d : DType) (t : Tag) : promote (promote d t) t = promote d t := by
  cases t with
  | none => simp [promote_none]
  | ty v => simp [promote_ty, Kind.join_assoc, Kind.join_idem]

/-- the order in which two values are absorbed does not matter -/
theorem promote_comm (d : DType) (s t : Tag) :
    promote (promote d s) t = promote (promote d t) s := by
  cases s with
  | none => cases t <;> simp [promote_none, promote_ty]
  | ty a =>
    cases t with
    | none => simp [promote_none, promote_ty]
    | ty b =>
      simp only [promote_ty]
      rw [Kind.join_assoc, Kind.join_assoc, Kind.join_comm a b]

/-! #### tie to the source: the tables regenerated from /repo on this run -/

/-- `DataType.promote_with`, executed by the extractor on one representative value per exact
    type × every dtype, is the model's `promote` (whole finite table, in the kernel) -/
theorem promote_table_agrees :
    ∀ e ∈ Gen.promoteTable, promote ⟨Kind.ofCode e.1, e.2.1⟩ (Tag.ofCode e.2.2.1)
      = ⟨Kind.ofCode e.2.2.2.1, e.2.2.2.2⟩ := by decide +kernel

/-- `infer_kind` likewise -/
theorem infer_kind_table_agrees :
    ∀ e ∈ Gen.inferKindTable, (inferKind (Tag.ofCode e.1)).map Kind.code = e.2 := by decide +kernel

/-- `validate_scalar` accepts exactly what the model's `validates` accepts -/
theorem validate_table_agrees :
    ∀ e ∈ Gen.validateTable, validates ⟨Kind.ofCode e.1, e.2.1⟩ (Tag.ofCode e.2.2.1) = e.2.2.2 := by
  decide +kernel

example : infer [.ty .int, .none, .ty .bool, .ty .float] = ⟨.float, true⟩ := by decide
example : infer [.none, .ty .int] = infer [.ty .int, .none] := by decide
example : infer [.ty .date, .ty .datetime, .ty .date] = ⟨.datetime, false⟩ := by decide
example : infer [.ty (.other 3), .ty (.other 4)] = ⟨.object, false⟩ := by decide
example : Gen.promoteTable.length > 100 := by decide +kernel

end Serif.C04
