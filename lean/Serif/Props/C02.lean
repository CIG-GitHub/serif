/-
  C02 — tables stay rectangular; row views agree with column views.
  Theorems about the pure table functions of Model/Tab.lean (the functions the driver executes), for every
  cell type, every shape (zero rows and zero columns included), and over histories of the heap model.
-/
import Serif.Proofs.Tab
import Serif.Proofs.HeapRect

namespace Serif.C02
open Serif.Tab
variable {α : Type}

/-- a rectangular table with n rows has exactly n rows when indexed or iterated, each as wide as the table … -/
theorem shape (cols : List (List α)) (n : Nat) (h : Rect cols n) :
    (rows cols n).length = n ∧ ∀ r ∈ rows cols n, r.length = cols.length :=
  ⟨rows_length cols n, rows_rect cols n h⟩

/-- … and the i-th row holds the i-th value of every column, in column order:
    `rows[i][j] = cols[j][i]` for every i < n, j < width -/
theorem row_index_eq_columns (cols : List (List α)) (n i j : Nat) (h : Rect cols n) (hi : i < n)
    (hj : j < cols.length) :
    ((rows cols n)[i]?).bind (·[j]?) = (cols[j])[i]? := by
  rw [rows_getElem? cols n i hi, Option.bind_some, row_getElem? cols n i h hi, List.getElem?_eq_getElem hj]
  rfl

/-- iteration yields the same rows as indexing (both are `rows`): the k-th row produced is row k, and there is
    no row at or beyond `len(table)` -/
theorem iter_eq_index (cols : List (List α)) (n k : Nat) :
    (rows cols n)[k]? = if k < n then some (row cols k) else none := by
  split
  · rename_i hk; exact rows_getElem? cols n k hk
  · rename_i hk; exact rows_getElem?_none cols n k (Nat.le_of_not_lt hk)

/-- `>>` appends columns and leaves the existing ones untouched -/
theorem stack_preserves_left (a b : List (List α)) :
    (stackCols a b).take a.length = a ∧ (stackCols a b).drop a.length = b := by
  simp [stackCols]

theorem stack_rect (a b : List (List α)) (n : Nat) (ha : Rect a n) (hb : Rect b n) : Rect (stackCols a b) n :=
  rect_append.mpr ⟨ha, hb⟩

/-- `<<` appends rows to every column: column j of the result is column j of the left followed by column j of
    the right, the width is unchanged and the result is rectangular with n + m rows -/
theorem append_rows_every_column (a b : List (List α)) (n m : Nat) (ha : Rect a n) (hb : Rect b m)
    (hw : a.length = b.length) :
    Rect (appendRows a b) (n + m) ∧ (appendRows a b).length = a.length ∧
    ∀ j (hj : j < a.length), (appendRows a b)[j]? = some (a[j] ++ b[j]'(hw ▸ hj)) :=
  ⟨appendRows_rect a b n m ha hb, appendRows_length a b hw, fun j hj => appendRows_getElem? a b hw j hj⟩

/-- appending one row of cells (`t << [v0, v1, …]`) -/
theorem append_row_every_column (cols : List (List α)) (vals : List α) (n : Nat) (h : Rect cols n)
    (hw : cols.length = vals.length) :
    Rect (appendRow cols vals) (n + 1) ∧
    ∀ j (hj : j < cols.length), (appendRow cols vals)[j]? = some (cols[j] ++ [vals[j]'(hw ▸ hj)]) := by
  -- `appendRow` is `appendRows` with the cells as one-cell columns
  have hw' : cols.length = (vals.map (fun v => [v])).length := by
    rw [List.length_map]
    exact hw
  obtain ⟨hr, -, hc⟩ := append_rows_every_column cols (vals.map (fun v => [v])) n 1 h (rect_singletons vals) hw'
  refine ⟨hr, fun j hj => ?_⟩
  simpa [appendRow] using hc j hj

/-- row slices and masks apply uniformly to all columns: the selection is rectangular with one row per selected
    position, keeps the width, and its k-th row is the row of the k-th selected position -/
theorem rowsel_uniform (idxs : List Nat) (cols : List (List α)) (n : Nat) (h : Rect cols n)
    (hi : ∀ i ∈ idxs, i < n) :
    Rect (rowSel idxs cols) idxs.length ∧ (rowSel idxs cols).length = cols.length ∧
    ∀ k (hk : k < idxs.length), row (rowSel idxs cols) k = row cols idxs[k] :=
  ⟨rowSel_rect idxs cols n h hi, rowSel_length idxs cols, fun k hk => rowSel_row idxs cols n h hi k hk⟩

/-- the transpose is rectangular: one column per row, each as long as the table is wide -/
theorem transpose_rect (cols : List (List α)) (n : Nat) (h : Rect cols n) :
    Rect (transpose cols n) cols.length ∧ (transpose cols n).length = n :=
  ⟨rows_rect cols n h, rows_length cols n⟩

/-- transposing twice gives back the original columns, hence the original cells -/
theorem transpose_transpose (cols : List (List α)) (n : Nat) (h : Rect cols n) :
    transpose (transpose cols n) cols.length = cols :=
  transpose_transpose_cols cols n h

/-- the executable rectangularity test used by the driver decides `Rect` -/
theorem rect_decidable (cols : List (List α)) (n : Nat) : rectB cols n = true ↔ Rect cols n :=
  rectB_iff cols n

/-- **tables stay rectangular**: start from the empty heap and run any history whose accepted writes keep lengths (what the
    library enforces: ragged construction and wrong-length column assignment are refused, item assignment keeps the length
    — C08 `length_preserved`).  Then every table any handle shows, at the end of the history, is rectangular — including
    tables whose columns were written through views taken earlier, columns swapped by attribute assignment, and tables
    fingerprinted in between. -/
theorem rect_invariant (fpOf : VecVal → Int) (ops : List HOp) (ok : Heap.LenOKRun fpOf Heap.empty ops)
    (r : Nat) (cols : List VecVal) (hv : (Heap.run fpOf Heap.empty ops).view r = some (.tab cols)) :
    ∃ n, Rect (cols.map (·.data)) n := by
  have hr := Heap.run_rect fpOf ops Heap.empty Heap.wf_empty Heap.rect_empty ok
  unfold Heap.view at hv
  split at hv
  · cases hv
  · rename_i o _
    exact (Heap.abs_rect _ hr o cols hv).imp fun n hn => List.forall_mem_map.mpr hn

/-- the step form: one accepted operation keeps every table object rectangular -/
theorem rect_step (fpOf : VecVal → Int) (h : Heap) (op : HOp) (wf : Heap.WF h) (r : Heap.RectHeap h)
    (ok : Heap.LenOK h op) : Heap.RectHeap (Heap.step fpOf h op) :=
  Heap.step_rect fpOf h op wf r ok

/-- the length side-condition is needed: a write that changes one column's length breaks rectangularity of the table
    holding it (so the invariant really rests on C08 `length_preserved`, not on the heap discipline alone) -/
theorem rect_needs_length_preservation :
    ∃ ops : List HOp, ∃ cols, (Heap.run (fun _ => 0) Heap.empty ops).view 0 = some (.tab cols) ∧
      ¬ ∃ n, Rect (cols.map (·.data)) n := by
  refine ⟨[.derive 0 (.tab [⟨[1, 2], none, none⟩, ⟨[3, 4], none, none⟩]), .getCol 1 0 0, .mutate 1 ⟨[1], none, none⟩],
    [⟨[1], none, none⟩, ⟨[3, 4], none, none⟩], by decide +kernel, ?_⟩
  rintro ⟨n, hn⟩
  -- one length for both columns
  exact absurd ((hn [1] (.head _)).trans (hn [3, 4] (.tail _ (.head _))).symm) (by decide)

example : Heap.LenOKRun (fun _ => 0) Heap.empty
    [.derive 0 (.tab [⟨[1, 2], none, none⟩, ⟨[3, 4], none, none⟩]), .getCol 1 0 0, .mutate 1 ⟨[7, 8], none, none⟩] := by
  refine ⟨⟨2, by simp⟩, trivial, ?_, trivial⟩
  -- handle 1 is the first column, object 0, of length 2
  intro o ho n hn
  cases (show some 0 = some o from ho)
  cases (show some 2 = some n from hn)
  rfl

example : rows [[1, 2, 3], [4, 5, 6]] 3 = [[1, 4], [2, 5], [3, 6]] := by decide +kernel
example : transpose (transpose [[1, 2, 3], [4, 5, 6]] 3) 2 = [[1, 2, 3], [4, 5, 6]] := by decide +kernel
example : appendRow [[1, 2], [3, 4]] [9, 8] = [[1, 2, 9], [3, 4, 8]] := by decide +kernel
example : rowSel [2, 0] [[1, 2, 3], [4, 5, 6]] = [[3, 1], [6, 4]] := by decide +kernel
example : rectB [[1, 2], [3]] 2 = false := by decide +kernel
example : transpose ([] : List (List Nat)) 0 = [] ∧ rows ([[], []] : List (List Nat)) 0 = [] := by decide +kernel

end Serif.C02
