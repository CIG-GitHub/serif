/-
  C20 — repr never fails and never misstates shape, dtype or data.
  All statements are about the definitions of Serif/Model/Repr.lean that the driver executes, for
  every column length, every preview budget `k`, every column limit `m`, and every instantiation
  of Python's string formatting (the texts carried by `Cell` / `Col`).
-/
import Serif.Proofs.Repr
import Serif.Gen.Consts

namespace Serif.C20
open Serif.Repr

/-- data longer than the limit shows exactly its first and last `k` rows around one ellipsis;
    shorter data shows every row -/
theorem preview_exact {α : Type} (k : Nat) (xs : List α) :
    (xs.length > 2 * k →
      preview k xs = (xs.take k).map .cell ++ [.ellipsis] ++ (xs.drop (xs.length - k)).map .cell) ∧
    (xs.length ≤ 2 * k → preview k xs = xs.map .cell) := by
  rw [preview, Nat.mul_comm]
  exact ⟨fun h => if_pos h, fun h => if_neg (Nat.not_lt.mpr h)⟩

/-- number of printed body lines -/
theorem preview_length {α : Type} (k : Nat) (xs : List α) :
    (preview k xs).length = if xs.length > 2 * k then 2 * k + 1 else xs.length := by
  split
  · rename_i h
    rw [(preview_exact k xs).1 h, List.length_append, List.length_append, length_take_map_cell h, List.length_map,
      List.length_drop, List.length_singleton, Nat.sub_sub_self (by omega), Nat.two_mul, Nat.add_right_comm]
  · rename_i h
    rw [(preview_exact k xs).2 (by omega), List.length_map]

/-- line `i < k` of a truncated preview is row `i` -/
theorem preview_head {α : Type} (k : Nat) (xs : List α) (h : xs.length > 2 * k) (i : Nat) (hi : i < k) :
    (preview k xs)[i]? = (xs[i]?).map .cell := by
  have hk := length_take_map_cell h
  rw [(preview_exact k xs).1 h, List.append_assoc, List.getElem?_append_left (by rw [hk]; exact hi),
    List.getElem?_map, List.getElem?_take_of_lt hi]

/-- the ellipsis stands at position `k` -/
theorem preview_ellipsis_position {α : Type} (k : Nat) (xs : List α) (h : xs.length > 2 * k) :
    (preview k xs)[k]? = some .ellipsis := by
  have hk := length_take_map_cell h
  rw [(preview_exact k xs).1 h, List.append_assoc, List.getElem?_append_right (by rw [hk]; exact Nat.le_refl k),
    hk, Nat.sub_self]
  rfl

/-- line `k + 1 + j` of a truncated preview is row `n - k + j`: the last `k` rows, in order -/
theorem preview_tail {α : Type} (k : Nat) (xs : List α) (h : xs.length > 2 * k) (j : Nat) :
    (preview k xs)[k + 1 + j]? = (xs[xs.length - k + j]?).map .cell := by
  have hk := length_take_map_cell h
  rw [(preview_exact k xs).1 h, List.append_assoc, List.getElem?_append_right (by rw [hk]; omega), hk,
    show k + 1 + j - k = j + 1 by omega, List.singleton_append, List.getElem?_cons_succ, List.getElem?_map,
    List.getElem?_drop]

/-- the rows a preview shows form a sublist of the data: nothing is shown twice, reordered or
    invented, for every `k` (including 0 and 1) -/
theorem preview_shows_sublist {α : Type} (k : Nat) (xs : List α) :
    (shownCells (preview k xs)).Sublist xs := by
  by_cases h : xs.length > 2 * k
  · rw [(preview_exact k xs).1 h]
    simp only [shownCells_append, shownCells_map_cell, shownCells, List.append_nil]
    have e : xs = xs.take k ++ xs.drop k := (List.take_append_drop k xs).symm
    conv => rhs; rw [e]
    exact List.Sublist.append (List.Sublist.refl _) (List.drop_sublist_drop_left xs (by omega))
  · rw [(preview_exact k xs).2 (by omega), shownCells_map_cell]
    exact List.Sublist.refl _

/-- the float branch is defined on all four classes of real numbers -/
theorem total_float_classes (n : NumClass) (c : Cell) (hnum : c.num = some n)
    (hg : c.g.isSome = true) (hf : c.f1.isSome = true) : ∃ s, fmtCell (some .float) c = .ok s :=
  fmtCell_total _ c (by simp [Cell.formattable, hnum, hg, hf])

/-- which text each class gets: whole finite numbers `:.1f`, everything else `:g` -/
theorem float_class_dispatch (n : NumClass) (c : Cell) (hnum : c.num = some n)
    (he : c.eqEllipsis = false) (hn : c.isNone = false) :
    fmtCell (some .float) c = need (if n = .finiteIntegral then c.f1 else c.g) :=
  fmtCell_float he hn hnum

/-- the cell formatter returns for every dtype and every value whose Python formatting is defined -/
theorem total (kind : Option Kind) (c : Cell) (h : c.formattable kind = true) :
    ∃ s, fmtCell kind c = .ok s := fmtCell_total kind c h

/-- … hence repr of a vector returns -/
theorem repr_vector_total (otherName : Nat → String) (rows : Nat) (v : Col)
    (h : ∀ c ∈ v.cells, c.formattable (v.dtype.map (·.kind)) = true) :
    ∃ out, reprVector otherName rows v = .ok out := by
  by_cases he : v.cells = []
  · exact ⟨_, reprVector_nil he⟩
  · obtain ⟨ls, hls⟩ := formatColumn_total (rows / 2) v h
    exact ⟨_, (reprVector_eq_ok he).mpr ⟨ls, hls, rfl⟩⟩

/-- … and repr of a table returns -/
theorem repr_table_total (otherName : Nat → String) (rows m : Nat) (t : Tab)
    (h : ∀ col ∈ t.cols, ∀ c ∈ col.cells, c.formattable (col.dtype.map (·.kind)) = true) :
    ∃ out, reprTable otherName rows m t = .ok out := by
  by_cases hne : t.cols = []
  · exact ⟨_, reprTable_nil hne⟩
  · obtain ⟨b, hb⟩ := tableBody_total (tableK rows t) m t.cols h
    exact ⟨_, (reprTable_eq_ok hne).mpr ⟨b, hb, rfl⟩⟩

/-- the model's float branch is partial: on a whole number that has no `:.1f` text (an int beyond the float range held by a
    float column) `fmtCell` returns an error; `formattable`, the hypothesis of `total`, excludes exactly this -/
theorem total_counterexample :
    ∃ c : Cell, c.isNone = false ∧ c.num = some .finiteIntegral ∧ c.g.isSome = true ∧
      fmtCell (some .float) c = .error .other :=
  ⟨{ isNone := false, eqEllipsis := false, isStr := false, num := some .finiteIntegral,
     str := "1e400", repr := "1e400", g := some "1e+400", f1 := none, iso := none },
   rfl, rfl, rfl, rfl⟩

/-- a vector's footer carries its true element count and its dtype token -/
theorem footer_counts_vector (otherName : Nat → String) (rows : Nat) (v : Col) (out : Out)
    (h : reprVector otherName rows v = .ok out) :
    out.footer = .vector v.cells.length (dtypeText otherName v.dtype) := by
  by_cases he : v.cells = []
  · rw [reprVector_nil he] at h
    cases h
    rw [he]
    rfl
  · obtain ⟨_, _, rfl⟩ := (reprVector_eq_ok he).mp h
    rfl

/-- a table's footer carries its true row count × column count -/
theorem footer_counts_table (otherName : Nat → String) (rows m : Nat) (t : Tab) (out : Out)
    (h : reprTable otherName rows m t = .ok out) (hne : t.cols ≠ []) :
    out.footer = .table t.nrows t.cols.length
      (footerTypes m (tableHeader otherName m t.cols).2 (decide (t.cols.length > m * 2))
        (t.cols.map (fun c => dtypeText otherName c.dtype))) := by
  obtain ⟨_, _, rfl⟩ := (reprTable_eq_ok hne).mp h
  rfl

/-- `len(table)` is the common column length -/
theorem nrows_rectangular (t : Tab) (r : Nat) (hne : t.cols ≠ [])
    (h : ∀ c ∈ t.cols, c.cells.length = r) : t.nrows = r := by
  unfold Tab.nrows
  cases hc : t.cols with
  | nil => exact absurd hc hne
  | cons c cs => exact h c (by rw [hc]; exact List.mem_cons_self)

/-- how the counts are written -/
theorem footer_render_counts (n r c : Nat) (dt : String) :
    (Footer.vector n dt).render = "# " ++ toString n ++ " element vector <" ++ dt ++ ">" ∧
    (Footer.table r c dt).render = "# " ++ toString r ++ "×" ++ toString c ++ " table <" ++ dt ++ ">" :=
  ⟨rfl, rfl⟩

/-- the dtype token: kind name, `?` iff nullable; `object` when there is no dtype -/
theorem footer_dtypes (otherName : Nat → String) (k : Kind) :
    dtypeText otherName (some ⟨k, true⟩) = kindName otherName k ++ "?" ∧
    dtypeText otherName (some ⟨k, false⟩) = kindName otherName k ∧
    dtypeText otherName none = "object" := by
  simp [dtypeText]

/-- tokens never misstate: two dtypes over the twelve built-in kinds print the same token only
    if they are the same dtype -/
theorem dtype_token_injective (otherName : Nat → String) (d₁ d₂ : DType)
    (h₁ : ∀ n, d₁.kind ≠ .other n) (h₂ : ∀ n, d₂.kind ≠ .other n)
    (h : dtypeText otherName (some d₁) = dtypeText otherName (some d₂)) : d₁ = d₂ := by
  obtain ⟨hi₁, hq₁⟩ := kindName_builtin otherName _ h₁
  obtain ⟨hi₂, hq₂⟩ := kindName_builtin otherName _ h₂
  obtain ⟨hk, hn⟩ := dtypeText_some_inj otherName hq₁ hq₂ h
  -- the names of the built-in kinds determine them: `kindOfName` reads them back
  have hk := congrArg kindOfName hk
  rw [hi₁, hi₂] at hk
  cases d₁
  cases d₂
  cases hk
  cases hn
  rfl

/-- with `show_types_in_header` set the footer says `<mixed>`; when it is set: `mixed_iff`, what the header then shows: `mixed_header_row` -/
theorem footer_types_mixed (m : Nat) (tr : Bool) (all : List String) :
    footerTypes m true tr all = "mixed" := rfl

/-- one token stands for the whole table only when every column has exactly that dtype token -/
theorem footer_types_homogeneous (m : Nat) (tr : Bool) (all : List String)
    (hh : heterogeneous all = false) :
    footerTypes m false tr all = all.headD "object" ∧ ∀ d ∈ all, d = all.headD "object" := by
  refine ⟨by simp [footerTypes, hh], ?_⟩
  cases all with
  | nil => intro d hd; cases hd
  | cons a r =>
    intro d hd
    simp only [heterogeneous, List.any_eq_false, bne_iff_ne, ne_eq, Decidable.not_not] at hh
    rcases List.mem_cons.mp hd with rfl | hd
    · rfl
    · exact hh d hd

/-- the dtype row / `<mixed>` appears exactly when two displayed columns differ in dtype token -/
theorem mixed_iff (otherName : Nat → String) (m : Nat) (cols : List Col) :
    (tableHeader otherName m cols).2 = true ↔
      ∃ a ∈ ((shownCols m cols).map (fun c => dtypeText otherName c.dtype)).filter (· != "..."),
      ∃ b ∈ ((shownCols m cols).map (fun c => dtypeText otherName c.dtype)).filter (· != "..."),
        a ≠ b := by
  rw [tableHeader_showTypes, heterogeneous_iff]

/-- otherwise the dtypes are listed in column order: all of them, or the first and last `m`
    around `...` when columns are hidden -/
theorem footer_types_listed (m : Nat) (all : List String) (hh : heterogeneous all = true) :
    footerTypes m false false all = joinComma all ∧
    footerTypes m false true all =
      joinComma (all.take m) ++ ", ..., " ++ joinComma (lastN m all) := by
  simp [footerTypes, hh]

/-- a vector's header line exists iff it has a non-empty name, and shows that name -/
theorem headers_show_stored_names_vector (otherName : Nat → String) (rows : Nat) (v : Col) (out : Out)
    (h : reprVector otherName rows v = .ok out) (hne : v.cells.isEmpty = false) :
    out.header = if nameTruthy v.name then [{ judged := true, cells := [v.shownName] }] else [] := by
  obtain ⟨_, _, rfl⟩ := (reprVector_eq_ok (by simpa using hne)).mp h
  rfl

/-- the columns a table displays: all of them, or the first and last `m` -/
theorem displayed_columns {α : Type} (m : Nat) (cols : List α) :
    shownCols m cols = if cols.length > 2 * m then cols.take m ++ cols.drop (cols.length - m) else cols := by
  rw [shownCols, Nat.mul_comm]

/-- `_compute_headers` reports exactly the displayed columns: their stored names, the texts shown
    for them and their dtype tokens, in order -/
theorem headers_report_displayed_columns (otherName : Nat → String) (m : Nat) (cols : List Col) :
    let h := computeHeaders otherName cols (shownIdx m cols.length)
    h.disp = (shownCols m cols).map (fun c => c.name.getD "") ∧
    h.shown = (shownCols m cols).map (·.shownName) ∧
    h.dts = (shownCols m cols).map (fun c => dtypeText otherName c.dtype) :=
  let ⟨hs, hd, ht, _⟩ := computeHeaders_fields otherName m cols
  ⟨hd, hs, ht⟩

/-- when any displayed column has a name, the first header row shows the stored name of every
    displayed column, with `...` standing for the hidden columns -/
theorem headers_show_stored_names (otherName : Nat → String) (m : Nat) (cols : List Col)
    (hany : ∃ c ∈ shownCols m cols, c.name.getD "" ≠ "" ∧ c.name.getD "" ≠ "...") :
    let disp := (shownCols m cols).map (fun c => c.name.getD "")
    let names := (shownCols m cols).map (·.shownName)
    let disp' := if cols.length > m * 2 then insertAt m "..." disp else disp
    let names' := if cols.length > m * 2 then insertAt m "..." names else names
    (tableHeader otherName m cols).1.head? =
      some { judged := true,
             cells := (disp'.zip names').map (fun (d, s) => if d == "..." then "..." else s) } := by
  intro disp names disp' names'
  simp only [tableHeader_eq, headerRows, computeHeaders_fields, decide_eq_true_eq]
  have hany' : (disp'.any (fun d => d != "..." && d != "")) = true := by
    obtain ⟨c, hc, h1, h2⟩ := hany
    rw [List.any_eq_true]
    refine ⟨c.name.getD "", ?_, by simp [h1, h2]⟩
    have hmem : c.name.getD "" ∈ disp := List.mem_map.mpr ⟨c, hc, rfl⟩
    show c.name.getD "" ∈ (if cols.length > m * 2 then insertAt m "..." disp else disp)
    split
    · exact mem_insertAt.mpr (.inr hmem)
    · exact hmem
  show List.head? ((if (disp'.any (fun d => d != "..." && d != "")) = true then _ else _) ++ _ ++ _) = _
  rw [hany']
  rfl

/-- when the displayed columns differ in dtype, a header row lists `[dtype]` for every displayed
    column (and the footer says `<mixed>`): the dtypes are stated per column -/
theorem mixed_header_row (otherName : Nat → String) (m : Nat) (cols : List Col)
    (hmix : (tableHeader otherName m cols).2 = true) :
    let dts := (shownCols m cols).map (fun c => dtypeText otherName c.dtype)
    let dts' := if cols.length > m * 2 then insertAt m "..." dts else dts
    (tableHeader otherName m cols).1.getLast? =
      some { judged := true, cells := dts'.map (fun d => if d != "..." then "[" ++ d ++ "]" else "...") } := by
  intro dts dts'
  simp only [tableHeader_eq, headerRows, computeHeaders_fields, decide_eq_true_eq] at hmix ⊢
  rw [hmix]
  simp only [if_true, List.getLast?_append, List.getLast?_singleton]
  rfl

/-- a vector prints one body line per preview entry, showing that entry's text -/
theorem body_lines_vector (otherName : Nat → String) (rows : Nat) (v : Col) (out : Out)
    (h : reprVector otherName rows v = .ok out) (hne : v.cells.isEmpty = false) :
    out.body.length = (if v.cells.length > 2 * (rows / 2) then 2 * (rows / 2) + 1 else v.cells.length) ∧
    ∀ (i : Nat) (s : Shown Cell), (preview (rows / 2) v.cells)[i]? = some s →
      ∃ t, fmtShown (v.dtype.map (·.kind)) s = .ok t ∧ out.body[i]? = some [t] := by
  obtain ⟨body, hb, rfl⟩ := (reprVector_eq_ok (by simpa using hne)).mp h
  constructor
  · rw [List.length_map, formatColumn_length _ _ _ hb, preview_length]
  intro i s hs
  obtain ⟨t, ht, hi⟩ := mapRes_ok_getElem? hb hs
  exact ⟨t, ht, by simp [hi]⟩

/-- a table prints as many body lines as the preview of its (common) column length, each with
    one cell per displayed column plus one for the `...` column -/
theorem body_lines_table (otherName : Nat → String) (rows m : Nat) (t : Tab) (out : Out) (r : Nat)
    (h : reprTable otherName rows m t = .ok out) (hne : t.cols ≠ []) (hm : m > 0)
    (hrect : ∀ c ∈ t.cols, c.cells.length = r) :
    out.body.length = (if r > 2 * tableK rows t then 2 * tableK rows t + 1 else r) ∧
    ∀ row ∈ out.body, row.length =
      (shownCols m t.cols).length + (if t.cols.length > m * 2 then 1 else 0) := by
  obtain ⟨body, hb, rfl⟩ := (reprTable_eq_ok hne).mp h
  obtain ⟨c0, cs, hc⟩ := List.exists_cons_of_ne_nil hne
  rw [hc] at hb hrect ⊢
  obtain ⟨hlen, hrow⟩ := tableBody_shape hb hm
  constructor
  · rw [hlen, preview_length, hrect c0 List.mem_cons_self]
  · exact hrow

/-- the column limit regenerated from display.py on this run is positive (the model's `formatted_cols[0]` exists) -/
theorem limits_positive : Gen.maxHeadCols > 0 := by decide

def demoCell (n : Nat) : Cell :=
  { isNone := false, eqEllipsis := false, isStr := false, num := some .finiteIntegral,
    str := toString n, repr := toString n, g := some (toString n), f1 := some (toString n ++ ".0"), iso := none }

def demoCol (name : String) (n : Nat) (dt : Kind) : Col :=
  { name := some name, shownName := name, san := some name, lower := name, dtype := some ⟨dt, false⟩,
    cells := (List.range n).map demoCell }

example : preview 2 [1, 2, 3, 4, 5, 6] = [.cell 1, .cell 2, .ellipsis, .cell 5, .cell 6] := by decide
example : preview 0 [1, 2, 3] = [.ellipsis] := by decide
example : preview 1 [1, 2, 3] = [.cell 1, .ellipsis, .cell 3] := by decide
example : preview 2 [1, 2, 3, 4] = [.cell 1, .cell 2, .cell 3, .cell 4] := by decide

example : (reprVector (fun _ => "?") 4 (demoCol "x" 5 .int)).toOption.map (fun o => (o.header.map (·.cells), o.body, o.footer.render)) =
    some ([["x"]], [["0"], ["1"], ["..."], ["3"], ["4"]], "# 5 element vector <int>") := by decide +kernel

example : (reprTable (fun _ => "?") 12 1 ⟨[demoCol "a" 2 .int, demoCol "b" 2 .float, demoCol "c" 2 .int], none⟩).toOption.map
    (fun o => (o.header.map (·.cells), o.body, o.footer.render)) =
    some ([["a", "...", "c"]], [["0", "...", "0"], ["1", "...", "1"]], "# 2×3 table <int, ..., int>") := by decide +kernel

example : (reprTable (fun _ => "?") 12 5 ⟨[demoCol "a" 1 .int, demoCol "b" 1 .float], none⟩).toOption.map
    (fun o => (o.header.map (·.cells), o.body, o.footer.render)) =
    some ([["a", "b"], ["[int]", "[float]"]], [["0", "0.0"]], "# 1×2 table <mixed>") := by decide +kernel

def demoOut : Out :=
  { header := [⟨true, ["a", "'b c'"]⟩], body := [["1", "x y"], ["...", "..."], ["None", ""]],
    footer := .table 5 2 "mixed", bare := false }

/-- the judge accepts any alignment of the right cells and rejects a wrong row, a missing
    ellipsis, a wrong count -/
example : judge demoOut ["a  'b c'", "   1  x y", " ...  ...", "None     ", "", "# 5×2 table <mixed>"] = none := by decide +kernel
example : judge demoOut ["a 'b c'", "1 x y", "... ...", "None", "", "# 5×2 table <mixed>"] = none := by decide +kernel
example : (judge demoOut ["a  'b c'", "   2  x y", " ...  ...", "None     ", "", "# 5×2 table <mixed>"]).isSome := by decide +kernel
example : (judge demoOut ["a  'b c'", "   1  x y", "None     ", "", "# 5×2 table <mixed>"]).isSome := by decide +kernel
example : (judge demoOut ["a  'b c'", "   1  x y", " ...  ...", "None     ", "", "# 4×2 table <mixed>"]).isSome := by decide +kernel
example : lineMatches ["12", "3"] "12  3" = true ∧ lineMatches ["12", "3"] "1  23" = false := by decide +kernel

end Serif.C20
