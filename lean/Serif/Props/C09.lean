/-
  C09 — inner join returns exactly the key-equal row pairs, in left-major order.
  `K` is any key type with decidable equality (the driver instantiates it with the list of equality-class ids
  of a row's key components), `α` any cell type.
-/
import Serif.Proofs.Join

namespace Serif.C09
open Serif.Join

variable {K : Type} [DecidableEq K] {α : Type}

/-- after the build loop the bucket of every key holds exactly the positions of its occurrences,
    whatever else the loop records (`chk` = whether the `duplicates` dict is maintained) -/
theorem index_bucket (chk : Bool) (rkeys : List K) (k : K) :
    bucketOf (build chk rkeys).1 k = matchIdx rkeys 0 k := bucketOf_build chk rkeys k

/-- … where "positions of its occurrences" means: `j` is listed iff row `j` carries key `k` … -/
theorem bucket_mem (rkeys : List K) (k : K) (j : Nat) : j ∈ matchIdx rkeys 0 k ↔ rkeys[j]? = some k :=
  mem_matchIdx rkeys k j

/-- … each once and in ascending order -/
theorem bucket_sorted (rkeys : List K) (k : K) : (matchIdx rkeys 0 k).Pairwise (· < ·) :=
  matchIdx_sorted rkeys 0 k

/-- `inner_join(..., expect='many_to_many')` never raises on valid keys and emits exactly
    `[(i, j) for i, k in enumerate(L) for j, k' in enumerate(R) if k == k']`, in that order -/
theorem pairs_eq_spec (lkeys rkeys : List K) :
    joinPairs .inner "many_to_many" lkeys rkeys = .ok ((innerSpec lkeys rkeys).map liftPair) :=
  joinPairs_mm .inner lkeys rkeys

/-- under every other expectation: whenever the call returns, it returns that same list -/
theorem pairs_eq_spec_any (e : String) (lkeys rkeys : List K) (ps : List Pair)
    (h : joinPairs .inner e lkeys rkeys = .ok ps) : ps = (innerSpec lkeys rkeys).map liftPair :=
  joinPairs_ok .inner e lkeys rkeys ps h

/-- exactly the key-equal pairs: `(i, j)` is emitted iff both rows exist and carry equal keys … -/
theorem pairs_mem_iff (lkeys rkeys : List K) (i j : Nat) :
    (i, j) ∈ innerSpec lkeys rkeys ↔ ∃ k, lkeys[i]? = some k ∧ rkeys[j]? = some k := by
  simp only [innerSpec, List.mem_flatMap, List.mem_filterMap, Prod.exists, List.mk_mem_zipIdx_iff_getElem?,
    Option.ite_none_right_eq_some, Option.some.injEq, Prod.mk.injEq]
  constructor
  · rintro ⟨k, _, hp, _, _, hq, rfl, rfl, rfl⟩; exact ⟨k, hp, hq⟩
  · rintro ⟨k, hp, hq⟩; exact ⟨k, i, hp, k, j, hq, rfl, rfl, rfl⟩

/-- … and exactly one row per such pair -/
theorem pairs_nodup (lkeys rkeys : List K) : (innerSpec lkeys rkeys).Nodup := by
  have := probeRows_nodup false lkeys rkeys
  rw [probeRows_inner] at this
  exact List.Pairwise.of_map liftPair (fun a b h e => h (e ▸ rfl)) this

/-- left-major order, stated without reference to the loop: any two emitted rows appear in
    lexicographic order of (left position, right position) -/
theorem pairs_left_major (lkeys rkeys : List K) :
    (innerSpec lkeys rkeys).Pairwise (fun a b => a.1 < b.1 ∨ (a.1 = b.1 ∧ a.2 < b.2)) := by
  have := probeRows_lex false lkeys rkeys
  rw [probeRows_inner, List.pairwise_map] at this
  exact this.imp (by simp [liftPair])

/-- no dependence on how the dict stores its buckets (hence none on hash order or hash seed):
    the probe loop gives the same result for any two indexes that answer `get` alike -/
theorem dict_independent (outer chkL : Bool) (ix ix' : Index K) (h : ∀ k, bucketOf ix k = bucketOf ix' k)
    (lkeys : List K) : probe outer chkL ix lkeys 0 [] = probe outer chkL ix' lkeys 0 [] :=
  probe_congr outer chkL ix ix' h lkeys 0 []

/-- output row `p` carries all left columns followed by all right columns of the paired rows -/
theorem rows (pad : α) (L R : Tab α) (ps : List Pair) (p : Nat) (h : p < ps.length) :
    (resultCols pad L R ps).map (fun c => c[p]?.getD pad)
      = rowAt pad L.cols ps[p].1 ++ rowAt pad R.cols ps[p].2 := row_resultCols pad L R ps p h

/-- for an inner join both halves are real rows: `L.row i ++ R.row j` -/
theorem rows_inner (pad : α) (L R : Tab α) (ij : List (Nat × Nat)) (p : Nat) (h : p < ij.length) :
    (resultCols pad L R (ij.map liftPair)).map (fun c => c[p]?.getD pad)
      = L.cols.map (fun c => c[ij[p].1]?.getD pad) ++ R.cols.map (fun c => c[ij[p].2]?.getD pad) := by
  rw [row_resultCols pad L R _ p (by simpa using h)]
  simp [rowAt, cellAt, liftPair]

/-- every result column has one cell per emitted pair -/
theorem column_lengths (pad : α) (L R : Tab α) (ps : List Pair) :
    ∀ c ∈ resultCols pad L R ps, c.length = ps.length := by
  intro c hc
  simp only [resultCols, List.mem_append, List.mem_map] at hc
  rcases hc with ⟨_, _, rfl⟩ | ⟨_, _, rfl⟩ <;> simp

/-- unless the empty-result shortcut applies, the result carries the left names followed by the right
    names and the buffers as filled; with the shortcut it is the zero-column table -/
theorem names (pad : α) (tagOf : α → Tag) (kind : JKind) (L R : Tab α) (ps : List Pair) :
    (shortcut kind L.nrows R.nrows (resultCols pad L R ps) = false →
      (assemble pad tagOf kind L R ps).names = L.names ++ R.names ∧
      (assemble pad tagOf kind L R ps).cols = resultCols pad L R ps) ∧
    (shortcut kind L.nrows R.nrows (resultCols pad L R ps) = true →
      assemble pad tagOf kind L R ps = { names := [], cols := [], dtypes := [] }) := by
  constructor
  · intro h
    simp [assemble, h]
  · intro h
    simp [assemble, h]

/-- the inner-join shortcut fires exactly when no pair was emitted (or there is no column at all) -/
theorem inner_shortcut_iff (pad : α) (L R : Tab α) (ps : List Pair) :
    shortcut .inner L.nrows R.nrows (resultCols pad L R ps) = true ↔ (ps = [] ∨ (L.cols = [] ∧ R.cols = [])) := by
  -- every buffer is `ps.map _`: empty iff `ps` is
  simp only [shortcut, resultCols, List.all_append, List.all_map, Bool.and_eq_true, List.all_eq_true, Function.comp,
    List.isEmpty_map, List.isEmpty_iff]
  by_cases hp : ps = [] <;> simp [hp, List.eq_nil_iff_forall_not_mem]

/-- for every method, expectation, pair of tables and key arguments: the model of the implementation
    (index, duplicates dict, seen set, probe loop, sweep; `expect` tuples as read from the source)
    returns what the specification (nested loops; `Nodup` tests) returns — same error or same table -/
theorem run_eq_spec (kind : JKind) (e : String) (L R : Tab Cell) (lon ron : OnArg) :
    run kind e L R lon ron = specRun kind e L R lon ron := run_eq_specRun kind e L R lon ron

example : joinPairs .inner "many_to_many" [1, 2, 1] [1, 1, 3, 2]
    = .ok [(some 0, some 0), (some 0, some 1), (some 1, some 3), (some 2, some 0), (some 2, some 1)] := by decide +kernel
example : innerSpec [[1, 0], [1, 1], [0, 0]] [[1, 1], [0, 1], [1, 1]] = [(1, 0), (1, 2)] := by decide
example : bucketOf (build true [5, 7, 5, 5]).1 5 = [0, 2, 3] := by decide
example : (resultCols 0 ⟨[some "k", some "x"], [[1, 2], [10, 20]]⟩ ⟨[some "k"], [[2, 2]]⟩
    [(some 1, some 0), (some 1, some 1)]) = [[2, 2], [20, 20], [2, 2]] := by decide

end Serif.C09
