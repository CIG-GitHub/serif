/-
  C16 — fingerprints track content: never stale, and they notice every change.
  Part 1 (histories): in the heap model every set memo equals the fingerprint of the current contents after any
  operation sequence, so `fingerprint()` is a function of what the object shows.
  Part 2 (sensitivity): number theory of the rolling hash with the constants read from the source on this run.
  Part 1 holds for any `fpOf`, `comb`; part 2 is about `fpVec`, `fpComb`.  Nothing here puts the one into the other: that the code's
  `fingerprint()` computes `fpVec` / `fpComb` is Tie/Fingerprint.lean.
-/
import Serif.Proofs.FpHeap
import Serif.Proofs.Fingerprint
import Serif.Props.C01
-- `seeds_spread` writes `(2 : Int) ^ 32`, which elaborates through Mathlib's `Monoid` power on `Int`; without this import it would
-- elaborate through core's `Int` power, a different statement
import Mathlib.Algebra.Group.Int.Defs

namespace Serif.C16
open Serif Serif.Heap Serif.FP

variable (fpOf : VecVal → Int) (comb : List Int → Int)

/-- **coherence over histories**: after any interleaving of constructions, derivations, column views, column
    replacement, vector and table writes, drops and `fingerprint()` calls, every cached fingerprint equals the
    fingerprint of the object's current contents. -/
theorem coherent (ops : List HOp) : Coherent fpOf (run fpOf Heap.empty ops) :=
  coherent_run fpOf ops Heap.empty (coherent_empty fpOf)

/-- **a function of current contents only**: what `fingerprint()` returns through any handle after any history is
    the fingerprint of a freshly built vector/table showing the same contents — whether or not it had been
    called, and cached, earlier. -/
theorem fresh_equal (ops : List HOp) (o : Nat) :
    let h := run fpOf Heap.empty ops
    fpRead fpOf comb h o = (h.abs o).map (fpAbs fpOf comb) :=
  fpRead_eq fpOf comb _ (coherent fpOf ops) o

/-- **read-only operations never change it** (fingerprint itself, failed/refused operations, taking a column view,
    dropping a handle) -/
theorem readonly_unchanged (ops : List HOp) (op : HOp) (o : Nat)
    (hop : (∃ r, op = .fingerprint r) ∨ op = .noop ∨ (∃ d t j, op = .getCol d t j) ∨ (∃ r, op = .drop r)) :
    let h := run fpOf Heap.empty ops
    fpRead fpOf comb (step fpOf h op) o = fpRead fpOf comb h o := by
  intro h
  have c := coherent fpOf ops
  rw [fpRead_eq fpOf comb _ (coherent_step fpOf h op c) o, fpRead_eq fpOf comb _ c o,
    C01.readonly_frame fpOf h op hop o]

/-- a write clears the memo of the written vector: the next `fingerprint()` is computed from the new contents -/
theorem write_then_read (ops : List HOp) (r w : Nat) (v v0 : VecVal) (m : Option Int) :
    let h := run fpOf Heap.empty ops
    h.root r = some w → h.objs w = some (.vec v0 m) →
    fpRead fpOf comb (step fpOf h (.mutate r v)) w = some (fpOf v) := by
  intro h hr hw
  have c := coherent fpOf ops
  rw [fpRead_eq fpOf comb _ (coherent_step fpOf h _ c) w]
  simp only [step, hr]
  rw [abs_setVec_self h w v v0 m hw]
  rfl

theorem P_pos : 0 < Gen.FP_P := by decide
private theorem P_pos' : (0 : Int) < FP.P := Int.natCast_pos.mpr P_pos
theorem B_pos : 1 ≤ Gen.FP_B := by decide
theorem coprime_B_P : Nat.Coprime Gen.FP_B Gen.FP_P := by decide +kernel
theorem coprime_B1_P : Nat.Coprime (Gen.FP_B - 1) Gen.FP_P := by decide +kernel
/-- the base a table combines its columns with: prime to P, and so is its difference from the column base -/
theorem coprime_BT_P : Nat.Coprime Gen.FP_BT Gen.FP_P := by decide +kernel
theorem B_le_BT : Gen.FP_B ≤ Gen.FP_BT := by decide
theorem coprime_BTmB_P : Nat.Coprime (Gen.FP_BT - Gen.FP_B) Gen.FP_P := by decide +kernel

/-- **a write that changes an element's hash (mod P) changes the vector's fingerprint** — any position, any
    length. `hs` are the element hashes (`hash(x)`, the None/NaN literals). -/
theorem write_changes (hs : List Int) (i : Nat) (y : Int) (hi : i < hs.length)
    (hne : ¬ (Gen.FP_P : Int) ∣ y - hs[i]) : fpVec (hs.set i y) ≠ fpVec hs :=
  H_set_index_ne Gen.FP_P Gen.FP_B coprime_B_P hs i y hi hne

/-- the same for the combination of column fingerprints into a table fingerprint (base `BT`) -/
theorem comb_changes (fps : List Int) (i : Nat) (y : Int) (hi : i < fps.length)
    (hne : ¬ (Gen.FP_P : Int) ∣ y - fps[i]) : fpComb (fps.set i y) ≠ fpComb fps :=
  H_set_index_ne Gen.FP_P Gen.FP_BT coprime_BT_P fps i y hi hne

/-- fingerprints are reduced modulo P -/
theorem fp_range (hs : List Int) : 0 ≤ fpVec hs ∧ fpVec hs < Gen.FP_P :=
  H_range _ _ P_pos' hs

/-- **… and the fingerprint of every table containing it**: if a column's fingerprint changes, so does the table's
    (column fingerprints are already reduced mod P, so distinct ones are never congruent) -/
theorem table_changes (cols : List (List Int)) (j : Nat) (c' : List Int) (hj : j < cols.length)
    (hne : fpVec c' ≠ fpVec cols[j]) : fpTab (cols.set j c') ≠ fpTab cols := by
  unfold fpTab Htab
  rw [List.map_set]
  have hj' : j < (cols.map (H FP.P FP.B)).length := by simpa using hj
  refine comb_changes (cols.map (H FP.P FP.B)) j (H FP.P FP.B c') hj' fun hd => ?_
  rw [List.getElem_map] at hd
  exact hne (eq_of_range_of_dvd_sub (fp_range c') (fp_range cols[j]) hd)

/-- **one table-level write that exchanges two cells of different columns is noticed too** — in particular the exchange
    along an anti-diagonal (cell below-left with cell above-right), which is what transposing a square table does and
    what the fingerprint could not see as long as tables combined their columns with the columns' own base -/
theorem antidiagonal_exchange_changes (pa sa pb sb : List Int) (x y : Int) (hlen : sb.length = sa.length + 1)
    (hxy : ¬ (Gen.FP_P : Int) ∣ y - x) :
    fpTab [pa ++ y :: sa, pb ++ x :: sb] ≠ fpTab [pa ++ x :: sa, pb ++ y :: sb] :=
  Htab_antidiag_ne Gen.FP_P Gen.FP_B Gen.FP_BT coprime_B_P coprime_BTmB_P B_le_BT pa sa pb sb x y hlen hxy

/-- with the columns' own base the anti-diagonal exchange is invisible (the defect, kept as a proved counterexample):
    a square table and its transpose collide -/
theorem same_base_transpose_collides :
    Htab P B B [[1, 2], [3, 4]] = Htab P B B [[1, 3], [2, 4]] ∧ fpTab [[1, 2], [3, 4]] ≠ fpTab [[1, 3], [2, 4]] := by
  decide +kernel

/-- **element order matters**: swapping two neighbours whose hashes differ (mod P) changes the fingerprint -/
theorem order_matters (pre post : List Int) (a b : Int) (hab : ¬ (Gen.FP_P : Int) ∣ a - b) :
    fpVec (pre ++ a :: b :: post) ≠ fpVec (pre ++ b :: a :: post) :=
  H_swap_ne Gen.FP_P Gen.FP_B coprime_B_P coprime_B1_P B_pos pre post a b hab

/-- the hypothesis "hashes differ mod P" is strictly stronger than "hashes differ": the rolling hash cannot tell
    apart two element hashes that differ by a multiple of P (known finding C16/hash-congruent-mod-P) -/
theorem congruent_hashes_collide_counterexample :
    fpVec [5] = fpVec [5 - (Gen.FP_P : Int)] ∧ (5 : Int) ≠ 5 - (Gen.FP_P : Int) := by
  decide +kernel

example : fpVec [1, 2, 3] ≠ fpVec [1, 2, 4] := by decide +kernel
example : fpVec [1, 2, 3] ≠ fpVec [2, 1, 3] := by decide +kernel
example : ¬ (Gen.FP_P : Int) ∣ (7 : Int) - 3 := by decide +kernel
example : fpTab [[1, 2], [3, 4]] ≠ fpTab [[1, 2], [3, 5]] := by decide +kernel

/-- the starting accumulators read off the current source are residues modulo P … -/
theorem seeds_are_residues :
    Gen.fpSeeds.all (fun e => decide (0 ≤ e.2) && decide (e.2 < FP.P)) = true := by decide +kernel

/-- … nonzero and pairwise different for the 21 (kind, length) pairs tabulated (kinds set / tuple / list, lengths 0–6):
    `()`, `[]`, `set()`, and containers of the same items but another kind or length class start differently -/
theorem seeds_distinct : (Gen.fpSeeds.map (·.2)).Nodup ∧ Gen.fpSeeds.all (fun e => decide (e.2 ≠ 0)) = true := by
  decide +kernel

/-- … and far from the hash of any small integer (an empty container hashes to its bare starting value: `()`, `[]`, `set()` must not
    look like 2, 3, 1) -/
theorem seeds_spread :
    Gen.fpSeeds.all (fun e => decide ((2 : Int) ^ 32 ≤ e.2) && decide (e.2 ≤ (Gen.FP_P : Int) - 2 ^ 32)) = true := by decide +kernel

/-- … and from the two fixed hashes of `_hash_element` (None, NaN): `set()` must not look like None (it does when the
    starting values are spread with the very constant used for None) -/
theorem seeds_avoid_literals :
    Gen.fpSeeds.all (fun e => decide (e.2 ≠ (Gen.NONE_HASH : Int) % Gen.FP_P) && decide (e.2 ≠ (Gen.NAN_HASH : Int) % Gen.FP_P)) = true := by
  decide +kernel

/-- an empty container hashes to the starting value of its kind -/
theorem empty_container_hash (k : Nat) : (Elem.seq k []).hash = seedOf k 0 := rfl

theorem seed_range (k n : Nat) : 0 ≤ seedOf k n ∧ seedOf k n < FP.P := seedOf_range P_pos' seeds_are_residues k n

/-- `_hash_element` of a set / tuple / list is the rolling hash over the items' hashes (a set: its sorted items), started from the
    accumulator of its kind and length -/
theorem container_hash (k : Nat) (es : List Elem) :
    (Elem.seq k es).hash = ev FP.P FP.B (seedOf k es.length) (es.map Elem.hash) := Elem.hash_seq k es

/-- **a change anywhere inside a container-valued element shows in the vector's fingerprint**: replacing the scalar at any
    nesting depth (`path`) of element `i` by one whose hash is not congruent changes the fingerprint -/
theorem container_write_changes (es : List Elem) (i : Nat) (path : List Nat) (x y : Int) (hi : i < es.length)
    (hx : es[i].leafAt path = some x) (hne : ¬ (Gen.FP_P : Int) ∣ y - x) :
    fpElems (es.set i (es[i].setAt path y)) ≠ fpElems es := by
  unfold fpElems
  rw [List.map_set]
  have hi' : i < (es.map Elem.hash).length := by simpa using hi
  apply write_changes (es.map Elem.hash) i _ hi'
  simp only [List.getElem_map]
  exact Elem.setAt_changes coprime_B_P P_pos' seed_range es[i] path x y hx hne

/-- **the kind of a container matters**: the same items as a set, a tuple and a list are hashed differently (lengths 0–6) -/
theorem container_kind_matters (es : List Elem) (hlen : es.length ≤ 6) :
    (Elem.seq 1 es).hash ≠ (Elem.seq 2 es).hash ∧ (Elem.seq 2 es).hash ≠ (Elem.seq 3 es).hash
      ∧ (Elem.seq 1 es).hash ≠ (Elem.seq 3 es).hash := by
  have key : ∀ n ∈ List.range 7, seedOf 1 n ≠ seedOf 2 n ∧ seedOf 2 n ≠ seedOf 3 n ∧ seedOf 1 n ≠ seedOf 3 n := by
    decide +kernel
  obtain ⟨h12, h23, h13⟩ := key es.length (List.mem_range.mpr (Nat.lt_succ_of_le hlen))
  exact ⟨Elem.kind_ne coprime_B_P P_pos' seed_range 1 2 es h12, Elem.kind_ne coprime_B_P P_pos' seed_range 2 3 es h23,
         Elem.kind_ne coprime_B_P P_pos' seed_range 1 3 es h13⟩

/-- **a value and the one-item container holding it are told apart** — `x` against `{x}`, `(x,)`, `[x]` (the collision the
    unseeded hash had) -/
theorem wrapped_value_differs (k : Nat) (hk : k = 1 ∨ k = 2 ∨ k = 3) (e : Elem) :
    ¬ (Gen.FP_P : Int) ∣ (Elem.seq k [e]).hash - e.hash := by
  have key : ∀ k ∈ [1, 2, 3], seedOf k 1 ≠ 0 := by decide +kernel
  have hk' : k ∈ [1, 2, 3] := by simpa using hk
  exact Elem.wrap_ne coprime_B_P P_pos' seed_range k e (key k hk')

/-- non-vacuity: a vector `[5, (1, [2, 3])]`, the innermost 2 replaced by 7 -/
example : ([Elem.leaf 5, .seq 2 [.leaf 1, .seq 3 [.leaf 2, .leaf 3]]] : List Elem)[1].leafAt [1, 0] = some 2
    ∧ ¬ (Gen.FP_P : Int) ∣ 7 - 2 := by
  refine ⟨rfl, ?_⟩
  decide +kernel

end Serif.C16
