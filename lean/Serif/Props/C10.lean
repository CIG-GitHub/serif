/-
  C10 — left and full outer joins keep every row and pad with None.
-/
import Serif.Proofs.Join

namespace Serif.C10
open Serif.Join

variable {K : Type} [DecidableEq K] {α : Type}

/-- `join(..., expect='many_to_many')`: per left row, in order, its matches in right order, or — if it has
    none — one row holding it and None on the right, at that left row's position -/
theorem left_eq_spec (lkeys rkeys : List K) :
    joinPairs .left "many_to_many" lkeys rkeys = .ok (leftSpec lkeys rkeys) :=
  joinPairs_mm .left lkeys rkeys

/-- `full_join(..., expect='many_to_many')`: the left-join rows followed by one row, None on the left, for
    each right row whose key occurs nowhere on the left, in right-table order -/
theorem full_eq_spec (lkeys rkeys : List K) :
    joinPairs .full "many_to_many" lkeys rkeys = .ok (leftSpec lkeys rkeys ++ rightOnly lkeys rkeys) :=
  joinPairs_mm .full lkeys rkeys

/-- under every expectation: whenever the call returns, it returns the rows of the definition -/
theorem eq_spec_any (kind : JKind) (e : String) (lkeys rkeys : List K) (ps : List Pair)
    (h : joinPairs kind e lkeys rkeys = .ok ps) : ps = specPairs kind lkeys rkeys :=
  joinPairs_ok kind e lkeys rkeys ps h

/-- which rows a left join has: a matched pair of key-equal rows, or an unmatched left row padded -/
theorem left_mem_iff (lkeys rkeys : List K) (p : Pair) :
    p ∈ leftSpec lkeys rkeys ↔
      (∃ k i j, lkeys[i]? = some k ∧ rkeys[j]? = some k ∧ p = (some i, some j))
      ∨ (∃ k i, lkeys[i]? = some k ∧ k ∉ rkeys ∧ p = (some i, none)) :=
  mem_leftSpec lkeys rkeys p

/-- which rows a full join has: additionally the right rows whose key is absent on the left -/
theorem full_mem_iff (lkeys rkeys : List K) (p : Pair) :
    p ∈ fullSpec lkeys rkeys ↔
      (∃ k i j, lkeys[i]? = some k ∧ rkeys[j]? = some k ∧ p = (some i, some j))
      ∨ (∃ k i, lkeys[i]? = some k ∧ k ∉ rkeys ∧ p = (some i, none))
      ∨ (∃ k j, rkeys[j]? = some k ∧ k ∉ lkeys ∧ p = (none, some j)) :=
  mem_fullSpec lkeys rkeys p

/-- no row is ever duplicated: in a left join -/
theorem left_nodup (lkeys rkeys : List K) : (leftSpec lkeys rkeys).Nodup := by
  rw [← probeRows_left]
  exact probeRows_nodup true lkeys rkeys

/-- and in a full join (the left join's rows, then right rows no left row has the key of) -/
theorem full_nodup (lkeys rkeys : List K) : (fullSpec lkeys rkeys).Nodup := by
  unfold fullSpec
  rw [List.nodup_append]
  refine ⟨left_nodup lkeys rkeys, rightOnly_nodup lkeys rkeys, ?_⟩
  intro a ha b hb e
  subst e
  rw [mem_rightOnly] at hb
  obtain ⟨k, j, _, _, rfl⟩ := hb
  rw [mem_leftSpec] at ha
  rcases ha with ⟨_, _, _, _, _, h⟩ | ⟨_, _, _, _, h⟩ <;> simp at h

/-- every left row appears at least once in a left join -/
theorem every_left_row_appears (lkeys rkeys : List K) (i : Nat) (h : i < lkeys.length) :
    ∃ p ∈ leftSpec lkeys rkeys, p.1 = some i := by
  have hk : lkeys[i]? = some lkeys[i] := List.getElem?_eq_getElem h
  by_cases hm : lkeys[i] ∈ rkeys
  · obtain ⟨j, hj⟩ := List.mem_iff_getElem?.mp hm
    exact ⟨(some i, some j), (left_mem_iff lkeys rkeys _).mpr (Or.inl ⟨_, i, j, hk, hj, rfl⟩), rfl⟩
  · exact ⟨(some i, none), (left_mem_iff lkeys rkeys _).mpr (Or.inr ⟨_, i, hk, hm, rfl⟩), rfl⟩

/-- every row of both tables appears at least once in a full join -/
theorem every_row_appears_full (lkeys rkeys : List K) :
    (∀ i, i < lkeys.length → ∃ p ∈ fullSpec lkeys rkeys, p.1 = some i) ∧
    (∀ j, j < rkeys.length → ∃ p ∈ fullSpec lkeys rkeys, p.2 = some j) := by
  constructor
  · intro i h
    obtain ⟨p, hp, e⟩ := every_left_row_appears lkeys rkeys i h
    exact ⟨p, by simp [fullSpec, hp], e⟩
  · -- a right row is a left row of the join with the tables exchanged, and the rows of that join are these swapped
    intro j h
    obtain ⟨p, hp, e⟩ := every_left_row_appears rkeys lkeys j h
    have hp' : RowOf rkeys lkeys p := (mem_fullSpec rkeys lkeys p).mp (List.mem_append_left _ hp)
    exact ⟨swapPair p, (mem_fullSpec lkeys rkeys _).mpr hp'.swap, e⟩

/-- an unmatched row appears exactly once, a matched left row once per match: `leftSpec` with its two cases written out
    (left row `i` gives the one padded row where no right row has its key, else one row per right row that has it) -/
theorem left_row_multiplicity (lkeys rkeys : List K) :
    leftSpec lkeys rkeys
      = lkeys.zipIdx.flatMap (fun p =>
          if matchIdx rkeys 0 p.1 = [] then [(some p.2, none)]
          else (matchIdx rkeys 0 p.1).map (fun j => (some p.2, some j))) := by
  simp [leftSpec]

/-- "placed at that left row's position": the rows of a left join come in left-row order (all rows of left
    row `i`, matched or padded, before all rows of left row `i' > i`) -/
theorem left_rows_in_left_order (lkeys rkeys : List K) :
    (leftSpec lkeys rkeys).Pairwise (fun a b => ∀ i i', a.1 = some i → b.1 = some i' → i ≤ i') := by
  rw [← probeRows_left]
  refine (probeRows_lex true lkeys rkeys).imp ?_
  intro a b h i i' ha hb
  rw [ha, hb] at h
  rcases h with h | ⟨h, _⟩
  · exact Nat.le_of_lt (Option.some_lt_some.mp h)
  · exact Nat.le_of_eq (Option.some.inj h)

/-- inner ⊆ left: the inner-join rows are the left-join rows with the padded ones removed, order kept -/
theorem inner_sublist_left (lkeys rkeys : List K) :
    ((innerSpec lkeys rkeys).map liftPair).Sublist (leftSpec lkeys rkeys) :=
  Join.inner_sublist_left lkeys rkeys

/-- left ⊆ full: the left-join rows are an initial segment of the full-join rows -/
theorem left_prefix_full (lkeys rkeys : List K) : leftSpec lkeys rkeys <+: fullSpec lkeys rkeys :=
  List.prefix_append _ _

/-- the same two statements about what the methods return -/
theorem containment (lkeys rkeys : List K) (pi pl pf : List Pair)
    (hi : joinPairs .inner "many_to_many" lkeys rkeys = .ok pi)
    (hl : joinPairs .left "many_to_many" lkeys rkeys = .ok pl)
    (hf : joinPairs .full "many_to_many" lkeys rkeys = .ok pf) :
    pi.Sublist pl ∧ pl <+: pf := by
  have e1 := eq_spec_any .inner _ lkeys rkeys pi hi
  have e2 := eq_spec_any .left _ lkeys rkeys pl hl
  have e3 := eq_spec_any .full _ lkeys rkeys pf hf
  subst e1
  subst e2
  subst e3
  exact ⟨Join.inner_sublist_left lkeys rkeys, List.prefix_append _ _⟩

/-- swapping the tables of a full join gives the same rows up to column order (`swapPair`) and row order -/
theorem full_symmetric (lkeys rkeys : List K) :
    (fullSpec lkeys rkeys).Perm ((fullSpec rkeys lkeys).map swapPair) := by
  -- both lists are duplicate-free, so it suffices that they have the same members: `RowOf` is symmetric under `swapPair`
  have hn2 : ((fullSpec rkeys lkeys).map swapPair).Nodup := by
    rw [List.nodup_iff_pairwise_ne, List.pairwise_map]
    exact (full_nodup rkeys lkeys).imp (fun h e => h (swapPair_injective _ _ e))
  rw [List.perm_ext_iff_of_nodup (full_nodup lkeys rkeys) hn2]
  intro p
  rw [mem_fullSpec, mem_map_swapPair, mem_fullSpec]
  exact ⟨RowOf.swap, RowOf.swap⟩

/-- the same about what `full_join` returns -/
theorem full_symmetric_run (lkeys rkeys : List K) (p q : List Pair)
    (hp : joinPairs .full "many_to_many" lkeys rkeys = .ok p)
    (hq : joinPairs .full "many_to_many" rkeys lkeys = .ok q) : p.Perm (q.map swapPair) := by
  have e1 := eq_spec_any .full _ lkeys rkeys p hp
  have e2 := eq_spec_any .full _ rkeys lkeys q hq
  subst e1
  subst e2
  exact full_symmetric lkeys rkeys

/-- a padded side is None (`pad`) in every one of its columns -/
theorem padded_side_none (pad : α) (cols : List (List α)) :
    rowAt pad cols none = List.replicate cols.length pad := by
  simp [rowAt, cellAt, List.eq_replicate_iff]

/-- so the row of an unmatched left row is that row followed by None in every right column, and the row of an
    unmatched right row is None in every left column followed by that row -/
theorem padded_rows (pad : α) (L R : Tab α) (ps : List Pair) (p : Nat) (h : p < ps.length) :
    (∀ i, ps[p] = (some i, none) →
      (resultCols pad L R ps).map (fun c => c[p]?.getD pad)
        = L.cols.map (fun c => c[i]?.getD pad) ++ List.replicate R.cols.length pad) ∧
    (∀ j, ps[p] = (none, some j) →
      (resultCols pad L R ps).map (fun c => c[p]?.getD pad)
        = List.replicate L.cols.length pad ++ R.cols.map (fun c => c[j]?.getD pad)) := by
  constructor
  · intro i e; rw [row_resultCols pad L R ps p h, e, padded_side_none, rowAt_some]
  · intro j e; rw [row_resultCols pad L R ps p h, e, padded_side_none, rowAt_some]

example : joinPairs .left "many_to_many" [7, 1, 7, 2] [1, 3, 1, 3]
    = .ok [(some 0, none), (some 1, some 0), (some 1, some 2), (some 2, none), (some 3, none)] := by decide +kernel
example : joinPairs .full "many_to_many" [7, 1, 7, 2] [1, 3, 1, 3]
    = .ok [(some 0, none), (some 1, some 0), (some 1, some 2), (some 2, none), (some 3, none),
           (none, some 1), (none, some 3)] := by decide +kernel
example : joinPairs .full "many_to_many" ([] : List Nat) [4, 4] = .ok [(none, some 0), (none, some 1)] := by decide +kernel
example : (fullSpec [7, 1] [1, 3]).Perm ((fullSpec [1, 3] [7, 1]).map swapPair) := by decide +kernel

end Serif.C10
