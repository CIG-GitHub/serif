/-
  C06 — None is handled uniformly: it propagates through arithmetic, compares False, is skipped by
  reductions; isna / dropna / fillna agree with one another.
  As in C05 every statement holds for every element type and every scalar semantics.
-/
import Serif.Proofs.Vec

namespace Serif.C06
open Serif.Vec

variable {α β γ ρ σ : Type}

/-- `v op other` (vector, list or scalar operand): a None on either side gives None -/
theorem none_propagates {op : α → β → Res γ} {xs : Col α} {o : Operand β} {r : Col γ}
    (h : elementwise op xs o = .ok r) {i : Nat} {x : Option α} {y : Option β}
    (hx : xs[i]? = some x) (hy : o.get? i = some y) (hn : x = none ∨ y = none) :
    r[i]? = some none :=
  apply_ok_const h hx hy (cell_none_of hn)

/-- all seven operators, direct and reflected, `_Date.__add__` included -/
theorem none_propagates_vector {S : Sem α} {o : BinOp} {refl : Bool} {v : Vec α} {other : Operand α}
    {r : Col α} (h : vectorBinary S o refl v other = .ok r) {i : Nat} {x y : Option α}
    (hx : v.data[i]? = some x) (hy : other.get? i = some y) (hn : x = none ∨ y = none) :
    r[i]? = some none := by
  rw [vectorBinary_eq_apply] at h
  refine apply_ok_const h hx hy ?_
  cases refl
  · exact cell_none_of hn
  · exact cell_none_of hn.symm

/-- unary `-`, `+`, `abs` and every broadcast method / property: None stays None -/
theorem none_propagates_unary {f : α → Res β} {xs : Col α} {r : Col β} (h : broadcast f xs = .ok r)
    {i : Nat} (hx : xs[i]? = some none) : r[i]? = some none := by
  obtain ⟨c, hc, hr⟩ := mapRes_ok_getElem? h hx
  cases hc
  exact hr

/-- and None is the only thing that produces None: where both operands are present the result
    is the (non-None) value Python computes -/
theorem not_none_elsewhere {op : α → β → Res γ} {xs : Col α} {o : Operand β} {r : Col γ}
    (h : elementwise op xs o = .ok r) {i : Nat} {a : α} {b : β}
    (hx : xs[i]? = some (some a)) (hy : o.get? i = some (some b)) :
    ∃ c, op a b = .ok c ∧ r[i]? = some (some c) := by
  obtain ⟨y, c, hy', hr, hc⟩ := apply_ok_getElem? h hx
  rw [hy] at hy'; cases hy'
  obtain ⟨v, hv, rfl⟩ := cell_ok_iff.mp hc
  exact ⟨v, hv, hr⟩

/-- every comparison, every operand form: a None on either side compares False -/
theorem compare_none_false {op : α → β → Res Bool} {xs : Col α} {o : Operand β} {r : BoolVec}
    (h : Vec.compare op xs o = .ok r) {i : Nat} {x : Option α} {y : Option β}
    (hx : xs[i]? = some x) (hy : o.get? i = some y) (hn : x = none ∨ y = none) :
    r.data[i]? = some false := by
  obtain ⟨l, hl, rfl⟩ := toBoolVec_ok h
  exact apply_ok_const hl hx hy (cmpCell_none_of hn)

/-- where both sides are present the result is Python's own comparison -/
theorem compare_pointwise {op : α → β → Res Bool} {xs : Col α} {o : Operand β} {r : BoolVec}
    (h : Vec.compare op xs o = .ok r) {i : Nat} {a : α} {b : β}
    (hx : xs[i]? = some (some a)) (hy : o.get? i = some (some b)) :
    ∃ t, op a b = .ok t ∧ r.data[i]? = some t := by
  obtain ⟨l, hl, rfl⟩ := toBoolVec_ok h
  obtain ⟨y, c, hy', hr, hc⟩ := apply_ok_getElem? hl hx
  rw [hy] at hy'; cases hy'
  exact ⟨c, hc, hr⟩

/-- the result is `DataType(bool, nullable=False)`, has the length of the vector, and (by its
    type: `List Bool`) holds nothing but booleans - in particular no None -/
theorem compare_result_nonnullable_bool {op : α → β → Res Bool} {xs : Col α} {o : Operand β}
    {r : BoolVec} (h : Vec.compare op xs o = .ok r) :
    r.dtype = { kind := .bool, nullable := false } ∧ r.data.length = xs.length := by
  obtain ⟨l, hl, rfl⟩ := toBoolVec_ok h
  exact ⟨rfl, apply_ok_length hl⟩

/-- the comparison model is an acceptable observation of "False at None, else Python's comparison"
    (where Python defines every pair the executable judge accepts nothing else: `C05.judge_exact`) -/
theorem compare_model_conforms (op : α → β → Res Bool) (xs : Col α) (o : Operand β) :
    conforms (specCompare op xs o) (outcome (apply (cmpCell op) xs o)) = true :=
  conforms_apply _ xs o

/-- comparing against a sequence of another length raises -/
theorem compare_length_mismatch_errors {op : α → β → Res Bool} {xs : Col α} {o : Operand β} {n : Nat}
    (hn : o.len? = some n) (hne : xs.length ≠ n) : ∃ e, Vec.compare op xs o = .error e := by
  unfold Vec.compare
  rw [apply_mismatch hn hne]
  exact ⟨.value, rfl⟩

/-- the same for date vectors (`_Date._elementwise_compare`), whatever the other operand is: a
    str-kind Vector or str scalar read as ISO dates, a datetime-kind Vector or datetime scalar, a list,
    any other vector (an untyped empty one included), any other scalar -/
theorem date_compare_none_false {isStr isDt : β → Bool} {op : α → β → Res Bool}
    {iso : α → β → Res Bool} {xs : Col α} {o : Operand β} {r : BoolVec}
    (h : dateCompare isStr isDt op iso xs o = .ok r) {i : Nat} {x : Option α} {y : Option β}
    (hx : xs[i]? = some x) (hy : o.get? i = some y) (hn : x = none ∨ y = none) :
    r.data[i]? = some false := by
  rw [dateCompare_eq_compare] at h
  exact compare_none_false h hx hy hn

/-- a date vector against a str-kind Vector of ISO dates with None on both sides, and against an
    untyped empty vector (the operands of /repo fa481f4) -/
example : dateCompare (α := Nat) (β := Nat) (fun _ => false) (fun _ => false) (fun _ _ => .error .type)
    (fun a b => .ok (decide (a < b))) [none, some 1, some 5] (.vec [some 2, none, some 9] (some ⟨.str, true⟩))
    = .ok { data := [false, false, true], dtype := boolDType } := by decide
example : dateCompare (α := Nat) (β := Nat) (fun _ => false) (fun _ => false) (fun _ _ => .ok true)
    (fun _ _ => .ok true) [] (.vec [] none) = .ok { data := [], dtype := boolDType } := by decide

/-- every reduction (sum, mean, min, max, stdev, any, all - any function of the None-free
    list): the result depends only on the non-None elements, in their order -/
theorem reduction_skips_none (f : List α → ρ) {xs ys : Col α} (h : nonNone xs = nonNone ys) :
    reduce f xs = reduce f ys := by
  unfold reduce; rw [h]

/-- inserting or deleting None anywhere never changes a reduction -/
theorem reduction_ignores_none_at (f : List α → ρ) (l₁ l₂ : Col α) :
    reduce f (l₁ ++ none :: l₂) = reduce f (l₁ ++ l₂) := by
  apply reduction_skips_none
  simp [nonNone]

/-- a reduction of the vector is the reduction of the None-free vector -/
theorem reduction_eq_on_dropped (f : List α → ρ) (xs : Col α) :
    reduce f xs = reduce f ((nonNone xs).map some) := by
  apply reduction_skips_none
  rw [nonNone_map_some]

/-- the same for a reduction written as an accumulating loop that tests each element:
    skipping in the loop = folding over the None-free list -/
theorem reduction_loop_skips_none (step : σ → α → σ) (init : σ) (xs : Col α) :
    reduceLoop step init xs = reduce (fun l => l.foldl step init) xs := by
  induction xs generalizing init with
  | nil => rfl
  | cons x xs ih =>
    cases x with
    | none => exact ih init
    | some a => exact ih (step init a)

/-- instances: the seven reductions of `Vector`, over arbitrary scalar arithmetic `A` -/
theorem builtin_reductions_skip_none (A : Arith α) (population : Bool) {xs ys : Col α}
    (h : nonNone xs = nonNone ys) :
    vsum A xs = vsum A ys ∧ vmean A xs = vmean A ys ∧ vmin A xs = vmin A ys ∧
    vmax A xs = vmax A ys ∧ vstdev A population xs = vstdev A population ys ∧
    vany A xs = vany A ys ∧ vall A xs = vall A ys :=
  ⟨reduction_skips_none _ h, reduction_skips_none _ h, reduction_skips_none _ h,
   reduction_skips_none _ h, reduction_skips_none _ h, reduction_skips_none _ h,
   reduction_skips_none _ h⟩

/-- `sum` as the loop `acc = acc + v` that skips None -/
theorem sum_is_skipping_loop (A : Arith α) (xs : Col α) :
    vsum A xs = reduceLoop A.add A.zero xs :=
  (reduction_loop_skips_none A.add A.zero xs).symm

/-- None still counts towards `len()`: the length is the number of non-None elements plus the
    number of Nones -/
theorem len_counts_none (xs : Col α) :
    xs.length = (nonNone xs).length + (xs.filter Option.isNone).length := by
  induction xs with
  | nil => rfl
  | cons x xs ih =>
    cases x with
    | none =>
      simp [nonNone_cons_none, ih]
      omega
    | some a =>
      simp [nonNone_cons_some, ih]
      omega

/-- `isna` marks exactly the None positions (and is a non-nullable bool vector of the same length) -/
theorem isna_spec (v : Vec α) :
    (isna v).dtype = { kind := .bool, nullable := false } ∧
    (isna v).data.length = v.data.length ∧
    ∀ (i : Nat) (x : Option α), v.data[i]? = some x → (isna v).data[i]? = some (decide (x = none)) := by
  refine ⟨rfl, by simp [isna], fun i x hx => ?_⟩
  cases x <;> simp [isna, hx]

/-- `dropna` returns exactly the elements at the positions `isna` does not mark, in order -/
theorem dropna_eq_filter_isna (v : Vec α) :
    (dropna v).data = ((v.data.zip (isna v).data).filter (fun p => !p.2)).map (·.1) := by
  simp only [dropna, isna]
  generalize v.data = xs
  induction xs with
  | nil => rfl
  | cons x xs ih => cases x <;> simp [nonNone_cons_none, nonNone_cons_some, ih]

/-- what `dropna` returns has no None left, keeps the other elements in order, and reports
    itself non-nullable with the kind unchanged -/
theorem dropna_spec (v : Vec α) :
    (dropna v).data = (nonNone v.data).map some ∧ none ∉ (dropna v).data ∧
    (dropna v).data.Sublist v.data ∧ reportsNullable (dropna v).dtype = false ∧
    (dropna v).dtype.map (·.kind) = v.dtype.map (·.kind) := by
  refine ⟨rfl, by simp [dropna], ?_, ?_, ?_⟩
  · rw [dropna, map_some_nonNone]
    exact List.filter_sublist
  · cases hd : v.dtype <;> simp [dropna, withNullable, reportsNullable, hd]
  · cases hd : v.dtype <;> simp [dropna, withNullable, hd]

/-- `fillna(x)` writes `x` at exactly the positions `isna` marks and leaves every other position
    alone - up to the element conversion `c` of a dtype promotion (`c = id` unless `x` is
    incompatible with the dtype and the vector is promoted to `x`'s kind) -/
theorem fillna_pointwise {kindOf : α → Kind} {conv : Kind → α → α} {v r : Vec α} {x : Option α}
    (h : fillna kindOf conv v x = .ok r) :
    ∃ c : α → α, (c = id ∨ ∃ a, x = some a ∧ c = conv (kindOf a)) ∧
      r.data.length = v.data.length ∧
      ∀ i : Nat, (v.data[i]? = some none → r.data[i]? = some x) ∧
           (∀ a, v.data[i]? = some (some a) → r.data[i]? = some (some (c a))) := by
  obtain ⟨c, hc, hr⟩ := fillna_ok h
  refine ⟨c, hc, by rw [hr, fillWith_length], fun i => ⟨fun hi => ?_, fun a hi => ?_⟩⟩
  · rw [hr]; exact fillWith_get_none c x hi
  · rw [hr]; exact fillWith_get_some c x hi

/-- when `x` is compatible with the dtype (or the vector is untyped / object / `x` is None)
    nothing else changes at all -/
theorem fillna_compatible_untouched {kindOf : α → Kind} {conv : Kind → α → α} {v : Vec α}
    {x : Option α}
    (hcompat : ∀ d a, v.dtype = some d → x = some a → d.kind = .object ∨ validates d (.ty (kindOf a)) = true) :
    ∃ r, fillna kindOf conv v x = .ok r ∧ r.data = fillWith id x v.data := by
  cases hd : v.dtype with
  | none => exact ⟨fillStandard v x, by simp only [fillna, hd], rfl⟩
  | some d =>
    cases x with
    | none => exact ⟨fillStandard v none, by simp only [fillna, hd], rfl⟩
    | some a =>
      refine ⟨fillStandard v (some a), ?_, rfl⟩
      simp only [fillna, hd]
      rcases hcompat d a hd rfl with hk | hv
      · simp [hk]
      · simp [hv]

/-- for `x ≠ None` both `fillna(x)` and `dropna()` return vectors that report themselves
    non-nullable - and truthfully so: they contain no None -/
theorem fillna_dropna_nonnullable {kindOf : α → Kind} {conv : Kind → α → α} {v : Vec α} {a : α} :
    (∀ r, fillna kindOf conv v (some a) = .ok r → reportsNullable r.dtype = false ∧ none ∉ r.data) ∧
    (reportsNullable (dropna v).dtype = false ∧ none ∉ (dropna v).data) := by
  constructor
  · intro r h
    exact fillna_some_nonnullable h
  · obtain ⟨_, h2, _, h4, _⟩ := dropna_spec v
    exact ⟨h4, h2⟩

/-- `fillna(x)` and `dropna()` agree: dropping after filling removes nothing (which elements `fillna` leaves alone is
    `fillna_pointwise`) -/
theorem fillna_dropna_agree {kindOf : α → Kind} {conv : Kind → α → α} {v r : Vec α} {a : α}
    (h : fillna kindOf conv v (some a) = .ok r) :
    (nonNone r.data).length = v.data.length := by
  obtain ⟨c, _, hr⟩ := fillna_ok h
  -- the fill leaves no None, so the filter keeps everything
  rw [hr, ← List.length_map (f := some), map_some_nonNone,
    List.filter_eq_self.mpr (isSome_of_mem_fillWith c a v.data), fillWith_length]

section examples
private def sub' : Nat → Nat → Res Nat := fun a b => if b ≤ a then .ok (a - b) else .error .other
private def lt' : Nat → Nat → Res Bool := fun a b => .ok (decide (a < b))

example : elementwise sub' [some 5, none, some 7] (.seq [some 1, some 2, none]) = .ok [some 4, none, none] := by decide
example : Vec.compare lt' [some 5, none, some 7] (.scalar 6)
    = .ok { data := [true, false, false], dtype := boolDType } := by decide
example : reduce List.sum [some 1, none, some 2] = reduce List.sum [none, none, some 1, some 2] := by decide
example : dropna ({ data := [some 1, none, some 3], dtype := some ⟨.int, true⟩ } : Vec Nat)
    = { data := [some 1, some 3], dtype := some ⟨.int, false⟩ } := by decide
example : dropna ({ data := [], dtype := none } : Vec Nat) = { data := [], dtype := none } := by decide
example : (fillna (fun _ => Kind.float) (fun _ n => n + 100)
    ({ data := [some 1, none], dtype := some ⟨.int, true⟩ } : Vec Nat) (some 7)).toOption.map (·.data)
    = some [some 101, some 7] := by decide
end examples

end Serif.C06
