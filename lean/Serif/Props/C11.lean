/-
  C11 — join cardinality expectations are enforced exactly.

  The model reads, for each of inner_join / join / full_join, the three tuples
      `expect not in (...)`,  `check_right_unique = expect in (...)`,  `check_left_unique = expect in (...)`
  from `Serif.Gen` (regenerated from the source by ast on every run).  `Join.expect_table` (Serif/Proofs/Join.lean)
  evaluates those tuples, so a changed tuple makes this file fail to build.
-/
import Serif.Proofs.Join

namespace Serif.C11
open Serif.Join

variable {K : Type} [DecidableEq K]

/-- the specification side: what each of the four values requires -/
theorem expect_meaning :
    (needsLeft "one_to_one" = true ∧ needsRight "one_to_one" = true) ∧
    (needsLeft "many_to_one" = false ∧ needsRight "many_to_one" = true) ∧
    (needsLeft "one_to_many" = true ∧ needsRight "one_to_many" = false) ∧
    (needsLeft "many_to_many" = false ∧ needsRight "many_to_many" = false) ∧
    ∀ e, validExpect e = true ↔ e ∈ ["one_to_one", "many_to_one", "one_to_many", "many_to_many"] := by
  simp [validExpect, expectValues, needsLeft, needsRight]

/-- each method accepts exactly the four documented values -/
theorem source_accepts (kind : JKind) (e : String) : acceptsExpect kind e = validExpect e := acceptsExpect_eq kind e

/-- each method checks the right side exactly for 'one_to_one' / 'many_to_one' and the left side exactly for
    'one_to_one' / 'one_to_many' (what `Table.join` of /repo violated before 17fb680) -/
theorem source_checks (kind : JKind) (e : String) (hv : validExpect e = true) :
    chkRight kind e = needsRight e ∧ chkLeft kind e = needsLeft e :=
  chk_eq kind e hv

/-- the `duplicates` dict of the build loop ends non-empty iff some right key occurs twice — anywhere,
    matched or not -/
theorem right_check_exact (rkeys : List K) : (build true rkeys).2 ≠ [] ↔ ¬ rkeys.Nodup := by
  simp [dups_build]

/-- the `left_keys_seen` test of the probe loop raises iff some left key occurs twice — whether or not it
    has matches, because the test precedes the lookup -/
theorem left_check_exact (outer : Bool) (ix : Index K) (lkeys : List K) :
    probe outer true ix lkeys 0 [] = .error .value ↔ ¬ lkeys.Nodup := by
  rw [probe_eq]
  by_cases h : lkeys.Nodup <;> simp [h]

/-- without the flag the loop never raises -/
theorem left_check_off (outer : Bool) (ix : Index K) (lkeys : List K) :
    ∃ r, probe outer false ix lkeys 0 [] = .ok r := ⟨_, probe_nochk outer ix lkeys 0 []⟩

/-- for each of the three joins and each of the four expectations the call raises — and then a
    SerifValueError — if and only if a required uniqueness fails; `Nodup` ranges over all rows, so a
    duplicate among unmatched rows counts -/
theorem exact (kind : JKind) (e : String) (hv : validExpect e = true) (lkeys rkeys : List K) :
    joinPairs kind e lkeys rkeys = .error .value ↔
      (needsRight e = true ∧ ¬ rkeys.Nodup) ∨ (needsLeft e = true ∧ ¬ lkeys.Nodup) := by
  rw [joinPairs_valid kind e hv]
  split <;> simp_all

/-- there is no other way to fail: any error is that value error -/
theorem raises_iff (kind : JKind) (e : String) (hv : validExpect e = true) (lkeys rkeys : List K) :
    (∃ err, joinPairs kind e lkeys rkeys = .error err) ↔
      (needsRight e = true ∧ ¬ rkeys.Nodup) ∨ (needsLeft e = true ∧ ¬ lkeys.Nodup) := by
  rw [joinPairs_valid kind e hv]
  split <;> simp_all

/-- spelled out per expectation -/
theorem decision_table (kind : JKind) (lkeys rkeys : List K) :
    ((∃ err, joinPairs kind "one_to_one" lkeys rkeys = .error err) ↔ ¬ rkeys.Nodup ∨ ¬ lkeys.Nodup) ∧
    ((∃ err, joinPairs kind "many_to_one" lkeys rkeys = .error err) ↔ ¬ rkeys.Nodup) ∧
    ((∃ err, joinPairs kind "one_to_many" lkeys rkeys = .error err) ↔ ¬ lkeys.Nodup) ∧
    ((∃ err, joinPairs kind "many_to_many" lkeys rkeys = .error err) ↔ False) := by
  have hv : ∀ x ∈ expectValues, validExpect x = true := fun x hx => by simpa [validExpect] using hx
  refine ⟨?_, ?_, ?_, ?_⟩
  · rw [raises_iff kind _ (hv _ (by simp [expectValues]))]
    simp [expect_meaning.1]
  · rw [raises_iff kind _ (hv _ (by simp [expectValues]))]
    simp [expect_meaning.2.1]
  · rw [raises_iff kind _ (hv _ (by simp [expectValues]))]
    simp [expect_meaning.2.2.1]
  · rw [raises_iff kind _ (hv _ (by simp [expectValues]))]
    simp [expect_meaning.2.2.2.1]

/-- any other expect value is always rejected — before the keys are even looked at -/
theorem bad_expect_rejected (kind : JKind) (e : String) (hv : validExpect e = false) (lkeys rkeys : List K) :
    joinPairs kind e lkeys rkeys = .error .value := by
  rw [joinPairs_eq_spec]
  simp [specJoinPairs, hv]

/-- the same for the whole call, whatever the tables and key arguments (even malformed ones) -/
theorem bad_expect_rejected_call (kind : JKind) (e : String) (hv : validExpect e = false)
    (L R : Tab Cell) (lon ron : OnArg) : run kind e L R lon ron = .error .value := by
  rw [run_eq_specRun]
  simp [specRun, hv]

/-- when the expectation holds the result is identical to the 'many_to_many' result -/
theorem result_eq_many_to_many (kind : JKind) (e : String) (lkeys rkeys : List K) (ps : List Pair)
    (h : joinPairs kind e lkeys rkeys = .ok ps) :
    joinPairs kind "many_to_many" lkeys rkeys = .ok ps := by
  rw [joinPairs_ok kind e lkeys rkeys ps h]
  exact joinPairs_mm kind lkeys rkeys

/-- the same for the whole call: same names, cells and dtypes -/
theorem result_eq_many_to_many_call (kind : JKind) (e : String) (L R : Tab Cell) (lon ron : OnArg)
    (o : Out Cell) (h : run kind e L R lon ron = .ok o) :
    run kind "many_to_many" L R lon ron = .ok o := by
  rw [run_eq_specRun] at h ⊢
  unfold specRun at h ⊢
  split at h
  · cases h
  · simp only [valid_mm, Bool.not_true, Bool.false_eq_true, if_false]
    cases hk : validateKeys L R lon ron with
    | error er => rw [hk] at h; cases h
    | ok kp =>
      rw [hk] at h
      simp only at h ⊢
      rw [specCore_mm]
      cases hc : specCore kind e (keyTuples L.nrows (kp.map (·.1))) (keyTuples R.nrows (kp.map (·.2))) with
      | error er => rw [hc] at h; cases h
      | ok ps =>
        rw [hc] at h
        rw [specCore_ok kind e _ _ ps hc] at h
        exact h

-- right duplicates (key 3) match nothing on the left, yet 'many_to_one' must raise, for all three joins
example : joinPairs .inner "many_to_one" [1, 2] [1, 3, 3] = .error .value := by decide +kernel
example : joinPairs .left "many_to_one" [1, 2] [1, 3, 3] = .error .value := by decide +kernel
example : joinPairs .full "many_to_one" [1, 2] [1, 3, 3] = .error .value := by decide +kernel
-- left duplicates (key 9) match nothing on the right: 'one_to_many' raises, 'many_to_one' does not
example : joinPairs .left "one_to_many" [9, 1, 9] [1, 2] = .error .value := by decide +kernel
example : joinPairs .left "many_to_one" [9, 1, 9] [1, 2]
    = .ok [(some 0, none), (some 1, some 0), (some 2, none)] := by decide +kernel
-- the README lookup: repeated left keys under the default 'many_to_one'
example : joinPairs .left "many_to_one" [1, 1, 2] [1, 2]
    = .ok [(some 0, some 0), (some 1, some 0), (some 2, some 1)] := by decide +kernel
example : joinPairs .left "one_to_many" [1, 1, 2] [1, 2] = .error .value := by decide +kernel
example : joinPairs .inner "one_to_on" [1] [1] = .error .value := by decide +kernel
example : joinPairs .full "one_to_one" [1, 2] [2, 3]
    = .ok [(some 0, none), (some 1, some 0), (none, some 1)] := by decide +kernel

end Serif.C11
