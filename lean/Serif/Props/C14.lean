/-
  C14 — sorting is a stable permutation with direction-independent None placement.

  Stated for `sortKeys` over any element type and any total preorders; tied to the source through `Gen.sortFlagTable` /
  `Gen.sortFlagVector` (the `key_fn`s, executed on this run); the executable contract `checkTable` / `checkVector` that the driver
  evaluates on the implementation's result holds of exactly one list, the model's.
-/
import Serif.Proofs.Sort

namespace Serif.C14
open Serif.Sort

section generic
variable {α : Type}

/-- every element exactly once -/
theorem sortKeys_perm (les : List (α → α → Bool)) (l : List α) : (sortKeys les l).Perm l :=
  Sort.sortKeys_perm les l

/-- key lemma (DESIGN §11.3, C14): stable sorts from the last key to the first realise the lexicographic order -/
theorem sortKeys_sorted_lex {les : List (α → α → Bool)} (h : ∀ le ∈ les, TotalPreorder le) (l : List α) :
    (sortKeys les l).Pairwise (fun a b => lexLE les a b = true) :=
  Sort.sortKeys_sorted h l

/-- stability: the elements tied with `a` on all keys appear in the result exactly as in the input
    (same elements, same multiplicities, same relative order) -/
theorem sortKeys_stable {les : List (α → α → Bool)} (h : ∀ le ∈ les, TotalPreorder le) (a : α) (l : List α) :
    (sortKeys les l).filter (allTied les a) = l.filter (allTied les a) :=
  filter_sortKeys_allTied h a l

/-- stability, pairwise form: two elements tied on all keys keep their relative order -/
theorem sortKeys_stable_pair {les : List (α → α → Bool)} (h : ∀ le ∈ les, TotalPreorder le) {a b : α}
    {l : List α} (hab : [a, b].Sublist l) (ht : allTied les a b = true) :
    [a, b].Sublist (sortKeys les l) := by
  have s := pair_sublist_filter hab (allTied_refl h a) ht
  rw [← filter_sortKeys_allTied h a l] at s
  exact s.trans List.filter_sublist

/-- the contract (permutation + lexicographic order + stability) has exactly one solution -/
theorem sortKeys_unique {les : List (α → α → Bool)} (h : ∀ le ∈ les, TotalPreorder le) (l p : List α)
    (hp : p.Perm l) (hs : p.Pairwise (fun a b => lexLE les a b = true))
    (hf : ∀ a ∈ l, p.filter (allTied les a) = l.filter (allTied les a)) :
    p = sortKeys les l :=
  Sort.sortKeys_unique h l p hp hs hf

/-- the loop over the keys is one stable sort by the lexicographic order -/
theorem sortKeys_eq_isort_lex {les : List (α → α → Bool)} (h : ∀ le ∈ les, TotalPreorder le) (l : List α) :
    sortKeys les l = isort (lexLE les) l :=
  sortKeys_eq_isort_lexLE h l

/-- sorting a sorted list changes nothing -/
theorem sortKeys_idempotent {les : List (α → α → Bool)} (h : ∀ le ∈ les, TotalPreorder le) (l : List α) :
    sortKeys les (sortKeys les l) = sortKeys les l :=
  sortKeys_of_sorted h (Sort.sortKeys_sorted h l)

/-- the executable contract is the contract -/
theorem checkSorted_iff [BEq α] [LawfulBEq α] (les : List (α → α → Bool)) (l p : List α) :
    checkSorted les l p = true ↔
      p.Perm l ∧ p.Pairwise (fun a b => lexLE les a b = true) ∧
      ∀ a ∈ l, p.filter (allTied les a) = l.filter (allTied les a) :=
  Sort.checkSorted_iff les l p

/-- … and it holds of exactly one list: the result of the sort loop -/
theorem checkSorted_iff_eq [BEq α] [LawfulBEq α] {les : List (α → α → Bool)} (h : ∀ le ∈ les, TotalPreorder le)
    (l p : List α) : checkSorted les l p = true ↔ p = sortKeys les l := by
  constructor
  · intro hc
    obtain ⟨hp, hs, hf⟩ := (Sort.checkSorted_iff les l p).mp hc
    exact Sort.sortKeys_unique h l p hp hs hf
  · rintro rfl; exact checkSorted_sortKeys h l

end generic

/-- `key_fn` of `Table.sort_by`, executed by the extractor on this run, gives None the larger flag
    exactly when `na_last != reverse` (whole table, in the kernel) -/
theorem flag_table_ok : flagOK Gen.sortFlagTable = true := by decide +kernel

/-- the same for the key function of `Vector.sort_by` -/
theorem flag_vector_ok : flagOK Gen.sortFlagVector = true := by decide +kernel

/-- Python's order on the key tuples of `Table.sort_by` is the specified order of one key -/
theorem key_order_table (rev naLast : Bool) (a b : Cell) :
    pyLE (fun n => Gen.sortFlagTable n rev naLast) rev a b = specLE rev naLast a b :=
  pyLE_table_eq_specLE flag_table_ok rev naLast a b

theorem key_order_vector (rev naLast : Bool) (a b : Cell) :
    pyLE (fun n => Gen.sortFlagVector n rev naLast) rev a b = specLE rev naLast a b :=
  pyLE_table_eq_specLE flag_vector_ok rev naLast a b

/-- None placement does not depend on the direction: with `na_last` a value may stand in front of a None
    and never a None in front of a value; with `na_last=False` the other way round -/
theorem none_placement (rev naLast : Bool) (x : Nat) :
    pyLE (fun n => Gen.sortFlagTable n rev naLast) rev (some x) none = naLast ∧
    pyLE (fun n => Gen.sortFlagTable n rev naLast) rev none (some x) = !naLast ∧
    pyLE (fun n => Gen.sortFlagVector n rev naLast) rev (some x) none = naLast ∧
    pyLE (fun n => Gen.sortFlagVector n rev naLast) rev none (some x) = !naLast := by
  rw [key_order_table, key_order_table, key_order_vector, key_order_vector]
  simp [specLE]

/-- values follow the key's own direction -/
theorem value_direction (rev naLast : Bool) (x y : Nat) :
    pyLE (fun n => Gen.sortFlagTable n rev naLast) rev (some x) (some y)
      = (if rev then decide (y ≤ x) else decide (x ≤ y)) ∧
    pyLE (fun n => Gen.sortFlagVector n rev naLast) rev (some x) (some y)
      = (if rev then decide (y ≤ x) else decide (x ≤ y)) := by
  rw [key_order_table, key_order_vector]
  simp [specLE]

/-- the specified key order is a total preorder (so the generic theorems apply) -/
theorem spec_key_total_preorder (rev naLast : Bool) : TotalPreorder (specLE rev naLast) :=
  specLE_totalPreorder rev naLast

section table
variable {n : Nat} {by_ : ByArg} {rev : RevArg} {naLast : Bool} {keys : List (List Cell × Bool)} {p : List Nat}

/-- when the arguments pass steps 1–3 the result is the sorted index list -/
theorem table_result (hv : validate n by_ rev = .ok keys) :
    sortByTable Gen.sortFlagTable n by_ rev naLast
      = .ok (sortKeys (keys.map (specRowLE naLast)) (List.range n)) := by
  rw [sortByTable_ok hv, sortIndices_eq_spec flag_table_ok]

/-- malformed requests are refused, with the error the first failing step raises -/
theorem table_refused {e : Err} (hv : validate n by_ rev = .error e) :
    sortByTable Gen.sortFlagTable n by_ rev naLast = .error e :=
  sortByTable_error hv

/-- C14.perm: every row index exactly once (for any flag table, even a wrong one) -/
theorem perm (tbl : Bool → Bool → Bool → Bool) (h : sortByTable tbl n by_ rev naLast = .ok p) :
    p.Perm (List.range n) := by
  unfold sortByTable at h
  split at h
  · cases h
  · cases h; exact Sort.sortKeys_perm _ _

/-- every column is rebuilt through the same index list, so cells stay together and each column is
    a permutation of the input column -/
theorem column_perm {β : Type} (tbl : Bool → Bool → Bool → Bool) (d : β) (src : List β)
    (hlen : src.length = n) (h : sortByTable tbl n by_ rev naLast = .ok p) :
    (gather d src p).Perm src := by
  have h2 : (gather d src p).Perm (gather d src (List.range n)) := (perm tbl h).map _
  rwa [← hlen, gather_range] at h2

/-- C14.sorted_lex: rows are in lexicographic order of the keys, each key in its own direction with
    None last iff `na_last` -/
theorem sorted_lex (hv : validate n by_ rev = .ok keys)
    (h : sortByTable Gen.sortFlagTable n by_ rev naLast = .ok p) :
    p.Pairwise (fun i j => lexLE (keys.map (specRowLE naLast)) i j = true) := by
  rw [table_result hv] at h; cases h
  exact Sort.sortKeys_sorted (specRows_totalPreorder naLast keys) _

/-- C14.stable: the rows tied with row `a` on all keys come out in their original order, whatever the
    directions -/
theorem stable (hv : validate n by_ rev = .ok keys)
    (h : sortByTable Gen.sortFlagTable n by_ rev naLast = .ok p) (a : Nat) :
    p.filter (allTied (keys.map (specRowLE naLast)) a)
      = (List.range n).filter (allTied (keys.map (specRowLE naLast)) a) := by
  rw [table_result hv] at h; cases h
  exact filter_sortKeys_allTied (specRows_totalPreorder naLast keys) a _

/-- C14.stable, pairwise form: rows `i < j` tied on all keys appear as `… i … j …` -/
theorem stable_pair (hv : validate n by_ rev = .ok keys)
    (h : sortByTable Gen.sortFlagTable n by_ rev naLast = .ok p) {i j : Nat} (hij : i < j) (hj : j < n)
    (ht : allTied (keys.map (specRowLE naLast)) i j = true) : [i, j].Sublist p := by
  rw [table_result hv] at h; cases h
  exact sortKeys_stable_pair (specRows_totalPreorder naLast keys) (pair_sublist_range hij hj) ht

/-- C14.none_placement in the result: of two rows whose most significant key is None for one and a value
    for the other, the later one is the None row iff `na_last` — whatever the direction `r` of that key -/
theorem none_rows_placement {col : List Cell} {r : Bool} {rest : List (List Cell × Bool)}
    (hv : validate n by_ rev = .ok ((col, r) :: rest))
    (h : sortByTable Gen.sortFlagTable n by_ rev naLast = .ok p) {i j : Nat} (hij : [i, j].Sublist p)
    (hne : (cellAt col i).isNone ≠ (cellAt col j).isNone) : (cellAt col j).isNone = naLast := by
  have hs := List.pairwise_iff_forall_sublist.mp (sorted_lex hv h) hij
  simp only [List.map_cons, lexLE, Bool.and_eq_true] at hs
  exact specLE_isNone hs.1 hne

/-- C14.idempotent: sort the sorted table again by the same keys (the key columns taken through the first
    result like every other column): no row moves -/
theorem idempotent (hv : validate n by_ rev = .ok keys)
    (h : sortByTable Gen.sortFlagTable n by_ rev naLast = .ok p) :
    sortIndices Gen.sortFlagTable naLast (keys.map (fun kr => (gather none kr.1 p, kr.2))) n
      = List.range n := by
  rw [table_result hv] at h; cases h
  rw [sortIndices_eq_spec flag_table_ok]
  have hlen := validate_lengths hv
  have htp := specRows_totalPreorder naLast keys
  have hs := Sort.sortKeys_sorted htp (List.range n)
  have hpl : (sortKeys (keys.map (specRowLE naLast)) (List.range n)).length = n :=
    (Sort.sortKeys_perm _ _).length_eq.trans List.length_range
  -- call the first result `p` and replace `n` by `p.length` everywhere: `sortKeys_positions` speaks of `List.range p.length`
  generalize sortKeys (keys.map (specRowLE naLast)) (List.range n) = p at hs hpl ⊢
  subst hpl
  -- the key of new row `i` is the key of old row `p[i]`, and the positions of a sorted list are sorted by the keys of their elements
  have hles : (keys.map fun kr => (gather none kr.1 p, kr.2)).map (specRowLE naLast)
      = (keys.map (specRowLE naLast)).map (fun le i j => le (p.getD i p.length) (p.getD j p.length)) := by
    rw [List.map_map, List.map_map]
    refine List.map_congr_left fun kr hkr => ?_
    funext i j
    simp only [Function.comp, specRowLE, cellAt_gather _ _ (hlen kr hkr)]
  rw [hles]
  exact sortKeys_positions htp hs _

/-- the contract the driver evaluates on the implementation's index list holds of the model's result and of
    nothing else -/
theorem check_table_iff (hv : validate n by_ rev = .ok keys) (p : List Nat) :
    checkTable naLast keys n p = true ↔ sortByTable Gen.sortFlagTable n by_ rev naLast = .ok p := by
  rw [table_result hv, checkTable, checkSorted_iff_eq (specRows_totalPreorder naLast keys), Except.ok.injEq, eq_comm]

/-- a request is answered iff it is well-formed (one key or a non-empty sequence of keys, each with one cell
    per row, `reverse` one bool or one per key); everything else is refused -/
theorem answered_iff_wellFormed (tbl : Bool → Bool → Bool → Bool) :
    (∃ p, sortByTable tbl n by_ rev naLast = .ok p) ↔ wellFormed n by_ rev = true := by
  rw [← validate_isOk, sortByTable]
  cases validate n by_ rev <;> simp [Except.isOk, Except.toBool]

end table

section vector
variable (rev naLast : Bool) (data : List Elem)

/-- every element exactly once (for any flag table) -/
theorem vector_perm (tbl : Bool → Bool → Bool → Bool) : (sortByVector tbl rev naLast data).Perm data :=
  isort_perm _ data

/-- in order: own direction for values, None last iff `na_last` whatever the direction -/
theorem vector_sorted :
    (sortByVector Gen.sortFlagVector rev naLast data).Pairwise (fun a b => specElemLE rev naLast a b = true) := by
  rw [sortByVector_eq_isort flag_vector_ok]
  exact isort_sorted (specElemLE_totalPreorder rev naLast) data

/-- stable in both directions: the elements tied with `a` (equal values, e.g. `1`, `True`, `1.0`; or all the
    Nones) come out in their input order -/
theorem vector_stable (a : Elem) :
    (sortByVector Gen.sortFlagVector rev naLast data).filter (eqv (specElemLE rev naLast) a)
      = data.filter (eqv (specElemLE rev naLast) a) := by
  rw [sortByVector_eq_isort flag_vector_ok]
  exact filter_isort_eqv (specElemLE_totalPreorder rev naLast) a data

/-- of a None and a value, the later one in the result is the None iff `na_last` -/
theorem vector_none_placement {a b : Elem}
    (hab : [a, b].Sublist (sortByVector Gen.sortFlagVector rev naLast data))
    (hne : a.1.isNone ≠ b.1.isNone) : b.1.isNone = naLast :=
  specLE_isNone (List.pairwise_iff_forall_sublist.mp (vector_sorted rev naLast data) hab) hne

/-- sorting a sorted vector changes nothing -/
theorem vector_idempotent :
    sortByVector Gen.sortFlagVector rev naLast (sortByVector Gen.sortFlagVector rev naLast data)
      = sortByVector Gen.sortFlagVector rev naLast data := by
  rw [sortByVector_eq_isort flag_vector_ok, sortByVector_eq_isort flag_vector_ok]
  exact isort_of_sorted _ (isort_sorted (specElemLE_totalPreorder rev naLast) data)

/-- the contract the driver evaluates on the implementation's result holds of the model's result only -/
theorem check_vector_iff (out : List Elem) :
    checkVector rev naLast data out = true ↔ out = sortByVector Gen.sortFlagVector rev naLast data := by
  rw [checkVector, checkSorted_iff_eq (specElems_totalPreorder rev naLast), sortByVector_eq_spec flag_vector_ok]

end vector

/-! #### non-vacuity: concrete inputs with ties, None and mixed directions
     (`rfl` where the statement is an equation in `Res (List Nat)`, which has no `DecidableEq` in scope here) -/

/-- keys a = [1, None, 0, 1] descending, b = [0, 1, None, 0] ascending, None first -/
example : sortByTable Gen.sortFlagTable 4
    (.seq [.cells [some 1, none, some 0, some 1], .cells [some 0, some 1, none, some 0]])
    (.many [true, false]) false = .ok [1, 0, 3, 2] := by rfl

/-- descending with ties keeps rows 0 and 3 in input order, None last -/
example : sortByTable Gen.sortFlagTable 4 (.single (.cells [some 1, none, some 0, some 1])) (.one true) true
    = .ok [0, 3, 2, 1] := by rfl

example : validate 4 (.single (.cells [some 1, none, some 0, some 1])) (.one true)
    = .ok [([some 1, none, some 0, some 1], true)] := by rfl

example : allTied [specRowLE true ([some 1, none, some 0, some 1], true)] 0 3 = true := by decide +kernel

example : sortByTable Gen.sortFlagTable 2 (.seq [.cells [some 0, some 1]]) (.many [true, false]) true
    = .error .value := by rfl

example : sortByTable Gen.sortFlagTable 2 (.seq [.cells [some 0, some 1], .missing]) (.one false) true
    = .error .key := by rfl

example : wellFormed 2 (.seq [.cells [some 0, some 1], .cells [none]]) (.one false) = false := by decide +kernel

/-- Vector([1, None, True, 0, 1.0]).sort_by(reverse=True): the three equal values keep their order -/
example : sortByVector Gen.sortFlagVector true true [(some 1, 1), (none, 0), (some 1, 2), (some 0, 3), (some 1, 4)]
    = [(some 1, 1), (some 1, 2), (some 1, 4), (some 0, 3), (none, 0)] := by decide +kernel

example : checkVector true true [(some 1, 1), (none, 0), (some 1, 2)] [(some 1, 1), (some 1, 2), (none, 0)] = true := by
  decide +kernel

example : checkVector true true [(some 1, 1), (none, 0), (some 1, 2)] [(some 1, 2), (some 1, 1), (none, 0)] = false := by
  decide +kernel

end Serif.C14
