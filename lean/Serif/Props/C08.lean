/-
  C08 — in-place assignment matches list assignment, promotes or rejects, and is atomic.

  `setitem P conv shared key value s` is the model of `Vector.__setitem__` (Serif/Model/Assign.lean);
  it returns (exception?, state at the point where it stopped).  The theorems about `setitem` / `tsetitem` hold for
  every promotable relation `P` and every conversion oracle `conv`, except four that are about `P := genP` (the set
  extracted from the source on this run, with which the driver runs the same function):
  `promotion_order_independent`, `incompatible_rejected`, `model_meets_spec` (every `conv`) and `promotion_table`
  (one total oracle); the counterexample `column_loop_alone_not_atomic` is a single run.
-/
import Serif.Proofs.AssignSpec
import Serif.Props.C03
import Serif.Props.C04
import Serif.Gen.Consts

namespace Serif.C08
open Serif.Assign

/-- Atomicity: whatever the reason an assignment fails — alias refusal, wrong key type, index out
    of range, mask / slice / index-list length mismatch, `len(value)` raising, the value iterator
    raising after any number of items, an incompatible value anywhere in the sequence, a refused
    promotion, an element conversion that raises — the vector (contents, dtype, name, fingerprint
    memo) is exactly as it was. -/
theorem vector_atomic (P : Kind → Kind → Bool) (conv : Kind → Nat → Option Nat) (shared : Bool)
    (key : Key) (value : Value) (s : VState) (e : Err)
    (h : (setitem P conv shared key value s).1 = some e) :
    (setitem P conv shared key value s).2 = s :=
  (setitem_frame P conv shared key value s).2.2 e h

/-- the length never changes, whatever the outcome -/
theorem length_preserved (P : Kind → Kind → Bool) (conv : Kind → Nat → Option Nat) (shared : Bool)
    (key : Key) (value : Value) (s : VState) :
    (setitem P conv shared key value s).2.data.length = s.data.length :=
  (setitem_frame P conv shared key value s).1

/-- the name never changes, whatever the outcome -/
theorem name_preserved (P : Kind → Kind → Bool) (conv : Kind → Nat → Option Nat) (shared : Bool)
    (key : Key) (value : Value) (s : VState) :
    (setitem P conv shared key value s).2.name = s.name :=
  (setitem_frame P conv shared key value s).2.1

/-- A successful assignment leaves exactly what Python list assignment leaves:
    the key addresses valid positions in Python's order (`specUpdates`: int with negative
    wrap-around, `range(*slice.indices(n))` for slices incl. extended and negative steps, the True
    positions of a mask, the normalised entries of an index list), a scalar is repeated and a
    sequence supplies one item per position, and every position ends up holding the last value
    addressed to it — later duplicates win — or its old element (`listAssign`), the old elements
    being converted iff the column kind was promoted (`convertedOld`). -/
theorem ok_eq_list_assign (P : Kind → Kind → Bool) (conv : Kind → Nat → Option Nat) (shared : Bool)
    (key : Key) (value : Value) (s s' : VState)
    (h : setitem P conv shared key value s = (none, s')) :
    ∃ ups old, specUpdates key value s.data.length = some ups ∧
      convertedOld conv s s' = some old ∧ s'.data = listAssign old ups := by
  obtain ⟨_, ⟨⟩⟩ | ⟨ups, s1, hu, _, _, hc, _, ⟨⟩⟩ := setitem_cases P conv h
  exact ⟨ups, s1.data, hu, hc, applyUpdates_eq_listAssign _ _⟩

/-- cells the key does not address keep their (possibly converted) old element -/
theorem untouched_cells (P : Kind → Kind → Bool) (conv : Kind → Nat → Option Nat) (shared : Bool)
    (key : Key) (value : Value) (s s' : VState)
    (h : setitem P conv shared key value s = (none, s')) :
    ∃ ts old, keyTargets key s.data.length = some ts ∧ convertedOld conv s s' = some old ∧
      ∀ i, i ∉ ts → s'.data[i]? = old[i]? := by
  obtain ⟨ups, old, hu, hc, hd⟩ := ok_eq_list_assign P conv shared key value s s' h
  obtain ⟨ts, vs, hts, _, rfl⟩ := specUpdates_eq_some.mp hu
  refine ⟨ts, old, hts, hc, fun i hi => ?_⟩
  have hno : ∀ u ∈ ts.zip vs, u.1 ≠ i := fun u hmem heq => hi (heq ▸ (List.of_mem_zip hmem).1)
  rw [hd, getElem?_listAssign, lookupLast_none_of_not_mem hno]
  cases old[i]? <;> rfl

/-- … and a cell that is addressed holds one of the values addressed to it -/
theorem addressed_cells (P : Kind → Kind → Bool) (conv : Kind → Nat → Option Nat) (shared : Bool)
    (key : Key) (value : Value) (s s' : VState)
    (h : setitem P conv shared key value s = (none, s')) :
    ∃ ups, specUpdates key value s.data.length = some ups ∧
      ∀ i v, lookupLast ups i = some v → i < s.data.length → s'.data[i]? = some v := by
  obtain ⟨ups, old, hu, hc, hd⟩ := ok_eq_list_assign P conv shared key value s s' h
  refine ⟨ups, hu, fun i v hl hi => ?_⟩
  have hlen : old.length = s.data.length := by
    have := length_preserved P conv shared key value s
    rwa [h, hd, listAssign_length] at this
  rw [hd, getElem?_listAssign, hl, List.getElem?_eq_getElem (by omega)]
  rfl

/-- the fingerprint memo is dropped by every successful assignment -/
theorem memo_invalidated (P : Kind → Kind → Bool) (conv : Kind → Nat → Option Nat) (shared : Bool)
    (key : Key) (value : Value) (s s' : VState)
    (h : setitem P conv shared key value s = (none, s')) : s'.fp = none := by
  obtain ⟨_, ⟨⟩⟩ | ⟨_, _, _, _, _, _, _, ⟨⟩⟩ := setitem_cases P conv h
  rfl

/-- Completeness: a well-formed list assignment (valid key, scalar or same-length sequence that can
    be consumed without an exception) on a vector that shares no storage can only be refused by
    the dtype check. -/
theorem valid_assignment_reaches_type_check (P : Kind → Kind → Bool) (conv : Kind → Nat → Option Nat)
    (key : Key) (value : Value) (s : VState) (ups : List (Nat × Cell))
    (hf : value.faulty = false ∨ ∃ i, key = .int i)
    (h : specUpdates key value s.data.length = some ups) :
    (setitem P conv false key value s).1 = (typePhase P conv (ups.map (·.2)) s).1 := by
  rw [setitem_eq, if_neg (by simp), buildUpdates_complete key value _ ups hf h]
  exact finish_fst

/-- a successful assignment that writes a None leaves the column nullable — every typed column, `object`
    columns included; an already nullable column stays nullable.  (That a None by itself is never refused is
    the rows with value type 0 of `promotion_table`.) -/
theorem none_makes_nullable (P : Kind → Kind → Bool) (conv : Kind → Nat → Option Nat) (shared : Bool)
    (key : Key) (value : Value) (s s' : VState) (d : DType)
    (h : setitem P conv shared key value s = (none, s'))
    (hd : s.dtype = some d) :
    ∃ ups d', specUpdates key value s.data.length = some ups ∧ s'.dtype = some d' ∧
      d'.nullable = (d.nullable || hasNone (ups.map (·.2))) := by
  obtain ⟨_, ⟨⟩⟩ | ⟨ups, s1, hu, _, _, _, hn, ⟨⟩⟩ := setitem_cases P conv h
  obtain ⟨d', hd', hdn⟩ := hn d hd
  exact ⟨ups, d', hu, hd', hdn⟩

/-- every pair in `_PROMOTABLE` is a conversion `Vector._promote` performs, with the required
    kind as the result -/
theorem promotable_pairs_convertible :
    ∀ p ∈ Gen.promotable, promoteVec (Kind.ofCode p.1) (Kind.ofCode p.2) = some (Kind.ofCode p.2) := by
  decide +kernel

/-- `_PROMOTABLE` is transitively closed, so the kind worked out over several values is always one
    `_promote` reaches in a single step from the column's kind -/
theorem promotable_transitive :
    ∀ p ∈ Gen.promotable, ∀ q ∈ Gen.promotable, p.2 = q.1 → (p.1, q.2) ∈ Gen.promotable := by
  decide +kernel

/-- the model of `_promote` agrees with `Vector._promote` executed on every (current, target) pair -/
theorem promote_vec_table_agrees :
    ∀ e ∈ Gen.promoteVecTable,
      (promoteVec (Kind.ofCode e.1) (Kind.ofCode e.2.1)).map Kind.code = e.2.2 :=
  C03.promoteVec_table_agrees

/-- what one new value does to a column — accept / accept-as-nullable / widen / reject — for every
    (column kind, nullable, value type) of the table tabulated from the live `validate_scalar`
    (16 exact types × every non-object dtype), with `_PROMOTABLE` as extracted:
    None → accepted, nullable; accepted by `validate_scalar` → unchanged dtype;
    otherwise widened to the value's kind iff the pair is in `_PROMOTABLE`; otherwise SerifTypeError -/
theorem promotion_table :
    ∀ e ∈ Gen.validateTable, e.1 ≠ 12 →
      foldTarget genP (fun _ _ => some 0) ⟨Kind.ofCode e.1, e.2.1⟩ [⟨Tag.ofCode e.2.2.1, 0⟩] =
        (if e.2.2.1 = 0 then .ok ⟨Kind.ofCode e.1, true⟩
         else if e.2.2.2 then .ok ⟨Kind.ofCode e.1, e.2.1⟩
         else if (e.1, e.2.2.1) ∈ Gen.promotable then .ok ⟨Kind.ofCode e.2.2.1, e.2.1⟩
         else .error .type) := by
  have hpos : ∀ e ∈ Gen.validateTable, 0 < e.1 := by decide +kernel
  intro e he _
  obtain ⟨k, n, c, acc⟩ := e
  have hv : validates ⟨Kind.ofCode k, n⟩ (Tag.ofCode c) = acc := C04.validate_table_agrees _ he
  by_cases hc : c = 0
  · subst hc; simp [foldTarget, Tag.ofCode]
  · -- one step of the loop: the verdict of `validate_scalar` is the row's (`C04.validate_table_agrees`), and
    -- `_PROMOTABLE` is asked about the two codes
    rw [Tag.ofCode_pos hc] at hv ⊢
    have hg : genP (Kind.ofCode k) (Kind.ofCode c) = decide ((k, c) ∈ Gen.promotable) := by
      rw [genP, Kind.code_ofCode (hpos _ he), Kind.code_ofCode (Nat.pos_of_ne_zero hc), List.contains_eq_mem]
    simp only [foldTarget, hv, hg, requiredKind, inferKind, Option.getD_some, Option.isNone_some, Bool.and_false,
      Bool.false_eq_true, if_false, hc, decide_eq_true_eq]

/-- `_PROMOTABLE`, as extracted from the source, is exactly the four value-converting widenings
    the specification demands (int→float, int→complex, float→complex, date→datetime); in particular
    bool columns are never widened (the clean refusal recorded in harness/CONVENTIONS.md, "Boundaries already
    decided") -/
theorem promotable_is_ladders (a b : Kind) : genP a b = widens a b := genP_eq_widens a b

/-- Order independence of the dtype decision: the loop over the new values (validate, else widen by
    `_PROMOTABLE`, else reject — in sequence order, the later value possibly being the incompatible
    one) accepts iff the join of the column kind with *all* written kinds is the column kind or one
    of its widenings, and then yields exactly that join, nullable iff the column was or a None is
    written.  So accept / widen / reject never depends on the order or multiplicity of the values. -/
theorem promotion_order_independent (conv : Kind → Nat → Option Nat) (d : DType) (vals : List Cell)
    (ho : d.kind ≠ .object) (hc : coercible conv vals) :
    foldTarget genP conv d vals =
      if specKind d.kind vals = d.kind ∨ widens d.kind (specKind d.kind vals) = true
      then .ok ⟨specKind d.kind vals, d.nullable || hasNone vals⟩ else .error .type := by
  rw [genP_is_widens]; exact foldTarget_eq_join conv d vals ho hc

/-- an incompatible value anywhere among the written ones is rejected with SerifTypeError (and, by
    `vector_atomic`, nothing changes) -/
theorem incompatible_rejected (conv : Kind → Nat → Option Nat) (key : Key) (value : Value) (s : VState)
    (d : DType) (ups : List (Nat × Cell))
    (hf : value.faulty = false ∨ ∃ i, key = .int i)
    (hs : specUpdates key value s.data.length = some ups) (hne : ups.map (·.2) ≠ [])
    (hd : s.dtype = some d) (ho : d.kind ≠ .object) (hc : coercible conv (ups.map (·.2)))
    (hbad : ¬(specKind d.kind (ups.map (·.2)) = d.kind ∨
              widens d.kind (specKind d.kind (ups.map (·.2))) = true)) :
    setitem genP conv false key value s = (some .type, s) := by
  have h1 := valid_assignment_reaches_type_check genP conv key value s ups hf hs
  simp only [typePhase_eq, hne, hd, ho, if_false] at h1
  have hfold : foldTarget genP conv d (ups.map (·.2)) = .error .type := by
    rw [genP_is_widens, foldTarget_eq_join conv d _ ho hc]
    simp only [hbad, if_false]
  rw [hfold] at h1
  simp only [checkedOut] at h1
  have h2 := vector_atomic genP conv false key value s .type h1
  exact Prod.ext h1 h2

/-- The model meets the specification: on every input (any key, any value with any fault, any
    conversion oracle, shared storage or not) the outcome of the model is
    accepted by the executable judge `accepts (demand …)` — the judge the driver applies to the
    outcome observed on the real code.  `demand` is the executable form of the property: a
    well-formed assignment must succeed with the list-assignment contents, the joined dtype and the
    old name; an ill-formed one (bad key, length mismatch, value raising before enough items) must
    raise and change nothing; an incompatible value must raise SerifTypeError and change nothing;
    latitude only for bool ← number, `v[[]] = x`, values without `len` or raising at their very
    end, coercions that raise, and shared storage. -/
theorem model_meets_spec (conv : Kind → Nat → Option Nat) (shared : Bool) (key : Key) (value : Value)
    (s : VState) (hf : fpFresh s = true) :
    accepts (demand conv shared key value s) s (setitem genP conv shared key value s) = true := by
  rw [setitem_eq]
  unfold demand
  simp only
  by_cases hsh : (!s.data.isEmpty && shared) = true
  · simp only [hsh, if_true]
    exact accepts_lax_err (relax_lax) hf
  · simp only [hsh, Bool.false_eq_true, if_false]
    cases hb : buildUpdates key value s.data.length with
    | error e =>
      simp only
      apply accepts_lax_err _ hf
      -- a consumable value is refused only when there is no well-formed assignment; a faulty one may always be
      apply faultAdjust_lax
      by_cases hfa : value.faulty = false ∨ ∃ i, key = .int i
      · exact .inl (core_lax_of_build_error conv hb hfa)
      · exact .inr ⟨fun i hi => hfa (.inr ⟨i, hi⟩), by simpa using fun h => hfa (.inl h)⟩
    | ok ups =>
      simp only
      apply faultAdjust_meets hb
      have hspec := (buildUpdates_eq_ok.mp hb).1
      by_cases hk : key = .maskList []
      · subst hk
        -- `v[[]] = x` on an empty vector: nothing to do
        have hu := specUpdates_emptyMask hspec
        subst hu
        simp [typePhase_eq, coreDemand, finish, accepts, sameObs, materialise, applyUpdates, fpFresh]
      · rw [coreDemand_of_spec conv hk, hspec]
        exact typed_meets conv ups s hf

/-- **Table atomicity**: a failed table assignment — malformed key, column not found, value that cannot be consumed,
    shapes that disagree, or ANY addressed column refusing its write, the first or a later one — leaves the table exactly
    as it was: every column's contents, dtype, name and memo. -/
theorem table_atomic (P : Kind → Kind → Bool) (conv : Kind → Nat → Option Nat)
    (key : TKey) (value : TValue) (t : TState) (e : Err)
    (h : (tsetitem P conv key value t).1 = some e) :
    (tsetitem P conv key value t).2 = t :=
  tsetitem_err_unchanged P conv h

/-- a successful table assignment is the column loop: every addressed column gets its vector assignment, in order -/
theorem table_ok_is_column_loop (P : Kind → Kind → Bool) (conv : Kind → Nat → Option Nat)
    (key : TKey) (value : TValue) (t t' : TState)
    (h : tsetitem P conv key value t = (none, t')) :
    ∃ row ws, plan (t.cols.map (·.name)) t.cols.length key value = .ok (row, ws) ∧
      writeCols P conv row ws t = (none, t') := by
  obtain ⟨_, ⟨⟩⟩ | ⟨row, ws, _, hp, hw, ⟨⟩⟩ := tsetitem_cases P conv h
  exact ⟨row, ws, hp, hw⟩

/-- why the wrapper is needed (the defect repaired in /repo ff19998): the column loop by itself is not atomic —
    `t[0] = [9, 5]` on an int and a str column fails at the second column after the first was written -/
theorem column_loop_alone_not_atomic :
    let a : VState := ⟨[⟨.ty .int, 1⟩, ⟨.ty .int, 2⟩], some ⟨.int, false⟩, some 1, none⟩
    let b : VState := ⟨[⟨.ty .str, 3⟩, ⟨.ty .str, 4⟩], some ⟨.str, false⟩, some 2, none⟩
    let nine : Value := .scalar ⟨.ty .int, 9⟩
    let five : Value := .scalar ⟨.ty .int, 5⟩
    let loop := writeCols genP (fun _ _ => none) (.int 0) [(0, nine), (1, five)] ⟨[a, b]⟩
    let whole := tsetitem genP (fun _ _ => none) (.single (.int 0))
      (.iter .listOrTuple ⟨.ty .list, 7⟩ [nine, five] false none) ⟨[a, b]⟩
    loop.1 = some .type ∧ loop.2 = ⟨[{ a with data := [⟨.ty .int, 9⟩, ⟨.ty .int, 2⟩] }, b]⟩ ∧
      whole = (some .type, ⟨[a, b]⟩) := by
  decide +kernel

/-- whatever the outcome, a table assignment keeps the number of columns, every column's length
    and every column's name -/
theorem table_shape_preserved (P : Kind → Kind → Bool) (conv : Kind → Nat → Option Nat)
    (key : TKey) (value : TValue) (t : TState) :
    shape (tsetitem P conv key value t).2 = shape t := by
  rcases tsetitem_cases P conv (rfl : tsetitem P conv key value t = _) with ⟨e, he⟩ | ⟨row, ws, t', _, hw, he⟩
  · rw [he]
  · rw [he, ← writeCols_shape P conv row ws t, hw]

/-- … and changes addressed columns only (within them, `untouched_cells` applies to each write) -/
theorem table_untouched_columns (P : Kind → Kind → Bool) (conv : Kind → Nat → Option Nat)
    (key : TKey) (value : TValue) (t : TState) (j : Nat)
    (h : ∀ row ws, plan (t.cols.map (·.name)) t.cols.length key value = .ok (row, ws) →
      ∀ w ∈ ws, tupleIndex t.cols.length w.1 ≠ some j) :
    (tsetitem P conv key value t).2.cols[j]? = t.cols[j]? := by
  rcases tsetitem_cases P conv (rfl : tsetitem P conv key value t = _) with ⟨e, he⟩ | ⟨row, ws, t', hp, hw, he⟩
  · rw [he]
  · rw [he, ← writeCols_untouched P conv row ws t j (h row ws hp), hw]

/-- a failed `rename_columns` (length mismatch, missing old name at any position, name lists that
    raise while being read) leaves every column name as it was -/
theorem rename_columns_atomic (olds news : List (Option Nat)) (ra : Option Nat)
    (names : List (Option Nat)) (e : Err)
    (h : (renameColumns olds news ra names).1 = some e) :
    (renameColumns olds news ra names).2 = names := by
  rcases renameColumns_cases (rfl : renameColumns olds news ra names = _) with ⟨e', he⟩ | ⟨_, _, _, he⟩
  · rw [he]
  · rw [he] at h; cases h

/-- a successful `rename_columns` applies exactly the simulated renames: sequential first-match
    renaming, no pair skipped -/
theorem rename_columns_ok (olds news : List (Option Nat)) (ra : Option Nat)
    (names names' : List (Option Nat))
    (h : renameColumns olds news ra names = (none, names')) :
    olds.length = news.length ∧ renameSpec (olds.zip news) names = some names' := by
  obtain ⟨_, ⟨⟩⟩ | ⟨hl, _, hs, ⟨⟩⟩ := renameColumns_cases h
  exact ⟨hl, hs⟩

private def v123 : VState := ⟨[⟨.ty .int, 1⟩, ⟨.ty .int, 2⟩, ⟨.ty .int, 3⟩], some ⟨.int, false⟩, some 1, some []⟩
private def conv0 : Kind → Nat → Option Nat := fun _ u => some (u + 100)

-- v[[0, 0, -1]] = [7, 8, 9]: later duplicate wins, negative index wraps
example : setitem genP conv0 false (.idxList [0, 0, -1])
    (.seq ⟨.ty .list, 50⟩ [⟨.ty .int, 7⟩, ⟨.ty .int, 8⟩, ⟨.ty .int, 9⟩] .ok none) v123
    = (none, { v123 with data := [⟨.ty .int, 8⟩, ⟨.ty .int, 2⟩, ⟨.ty .int, 9⟩], fp := none }) := by decide +kernel
-- v[::-1] = [7, 8, 9]
example : (setitem genP conv0 false (.slice none none (some (-1)))
    (.seq ⟨.ty .list, 50⟩ [⟨.ty .int, 7⟩, ⟨.ty .int, 8⟩, ⟨.ty .int, 9⟩] .ok none) v123).2.data
    = [⟨.ty .int, 9⟩, ⟨.ty .int, 8⟩, ⟨.ty .int, 7⟩] := by decide +kernel
-- v[0:2] = [1.5, None]: promoted to float?, old elements converted
example : setitem genP conv0 false (.slice (some 0) (some 2) none)
    (.seq ⟨.ty .list, 50⟩ [⟨.ty .float, 7⟩, ⟨.none, 0⟩] .ok none) v123
    = (none, { data := [⟨.ty .float, 7⟩, ⟨.none, 0⟩, ⟨.ty .float, 103⟩], dtype := some ⟨.float, true⟩,
               name := some 1, fp := none }) := by decide +kernel
-- v[0:2] = [1.5, 'a']: the later value is the incompatible one; rejected, nothing changed
example : setitem genP conv0 false (.slice (some 0) (some 2) none)
    (.seq ⟨.ty .list, 50⟩ [⟨.ty .float, 7⟩, ⟨.ty .str, 8⟩] .ok none) v123 = (some .type, v123) := by decide +kernel
-- the value iterator raises after one item
example : setitem genP conv0 false (.maskList [true, false, true])
    (.seq ⟨.ty (.other 5), 50⟩ [⟨.ty .int, 7⟩, ⟨.ty .int, 8⟩] .ok (some 1)) v123 = (some .other, v123) := by decide +kernel
-- a conversion of an existing element raises inside `_promote`
example : setitem genP (fun _ _ => none) false (.int 0) (.scalar ⟨.ty .float, 7⟩) v123 = (some .other, v123) := by
  decide +kernel
-- an object column: v[1] = None is accepted and the schema becomes object?
example : setitem genP conv0 false (.int 1) (.scalar ⟨.none, 0⟩)
    ⟨[⟨.ty .int, 1⟩, ⟨.ty .str, 2⟩], some ⟨.object, false⟩, none, some []⟩
    = (none, ⟨[⟨.ty .int, 1⟩, ⟨.none, 0⟩], some ⟨.object, true⟩, none, none⟩) := by decide +kernel
example : renameColumns [some 1, some 2] [some 2, some 3] none [some 1, some 2] = (none, [some 3, some 2]) := by
  decide +kernel
example : renameColumns [some 1, some 9] [some 2, some 3] none [some 1, some 2] = (some .key, [some 1, some 2]) := by
  decide +kernel
example : Gen.promotable.length = 4 := by decide

end Serif.C08
