/-
  C19 — CSV ingestion is faithful to the file.
  Everything is stated for an arbitrary cell-text type `τ`, an arbitrary type `ν` of Python values
  and an arbitrary `Oracle` (Python's `strip`, `int()`, `float()`): the statements are about the
  pipeline after `csv.reader`, for every list of records of every shape.
-/
import Serif.Proofs.Csv
import Serif.Proofs.DType
import Serif.Proofs.CsvLex

namespace Serif.C19
open Serif.Csv

variable {τ ν : Type} (O : Oracle τ ν)

/-- one column per header cell -/
theorem one_column_per_header_cell (hdr : List τ) (rest : List (List τ)) :
    (readCsv O true (hdr :: rest)).length = hdr.length :=
  readCsv_length O true hdr rest

/-- … named verbatim, in order; nothing is deduplicated, trimmed or renamed (repeats are kept) -/
theorem names_verbatim (hdr : List τ) (rest : List (List τ)) :
    names (readCsv O true (hdr :: rest)) = hdr.map O.raw :=
  names_readCsv O true hdr rest

/-- header-less input: one column per cell of the *first* record, called col_0, col_1, … -/
theorem headerless_names (first : List τ) (rest : List (List τ)) :
    names (readCsv O false (first :: rest)) = colNames first.length ∧
    (readCsv O false (first :: rest)).length = first.length :=
  ⟨names_readCsv O false first rest, readCsv_length O false first rest⟩

/-- the generated names are exactly `col_<i>` -/
theorem colNames_get (n i : Nat) (h : i < n) :
    (colNames n)[i]? = some ("col_" ++ toString i) := by
  simp [colNames, h]

/-- every column has one entry per data record (the table is rectangular) -/
theorem rectangular (hh : Bool) (all : List (List τ)) :
    ∀ col ∈ readCsv O hh all, col.data.length = (dataRecords hh all).length := by
  intro col h
  cases all with
  | nil => simp [readCsv] at h
  | cons first rest =>
    rw [readCsv_cons] at h
    obtain ⟨i, hi, rfl⟩ := List.mem_mapIdx.mp h
    simp [column_length]

/-- one row per data record — provided there is at least one column (a blank header line, or a
    blank first line of a header-less file, yields zero columns, and a table without columns
    has no rows) -/
theorem one_row_per_record (hh : Bool) (all : List (List τ)) (h : readCsv O hh all ≠ []) :
    nrows (readCsv O hh all) = (dataRecords hh all).length := by
  cases hc : readCsv O hh all with
  | nil => exact absurd hc h
  | cons col cols =>
    simp only [nrows]
    exact rectangular O hh all col (by rw [hc]; exact List.mem_cons_self)

/-- the zero-column boundary, stated: it arises exactly from an empty first record -/
theorem zero_columns_iff (hh : Bool) (first : List τ) (rest : List (List τ)) :
    readCsv O hh (first :: rest) = [] ↔ first = [] := by
  rw [← List.length_eq_zero_iff, readCsv_length, List.length_eq_zero_iff]

/-- cell (r, c) is the classification of the c-th text of the r-th data record if that record is
    long enough, else None; cells beyond the header width are never used -/
theorem cell (hh : Bool) (all : List (List τ)) (c r : Nat) (col : Column ν) (rec : List τ)
    (hc : (readCsv O hh all)[c]? = some col) (hr : (dataRecords hh all)[r]? = some rec) :
    col.data[r]? = some (if h : c < rec.length then inferType O rec[c] else O.none) := by
  cases all with
  | nil => cases hc
  | cons first rest =>
    rw [readCsv_cons, List.getElem?_mapIdx] at hc
    obtain ⟨name, _, rfl⟩ := Option.map_eq_some_iff.mp hc
    rw [column_getElem?, hr]; rfl

/-- the classification order of `_infer_type`: blank → None … -/
theorem classify_blank (v : τ) (h : O.blank v = true) : inferType O v = O.none := by
  simp [inferType, h]

/-- … else the int if `int()` accepts the stripped text … -/
theorem classify_int (v : τ) (i : ν) (hb : O.blank v = false) (h : O.int? v = some i) :
    inferType O v = i := by
  simp [inferType, hb, h]

/-- … else the float if `float()` does … -/
theorem classify_float (v : τ) (f : ν) (hb : O.blank v = false) (hi : O.int? v = none)
    (h : O.float? v = some f) : inferType O v = f := by
  simp [inferType, hb, hi, h]

/-- … else the stripped string -/
theorem classify_text (v : τ) (hb : O.blank v = false) (hi : O.int? v = none)
    (hf : O.float? v = none) : inferType O v = O.text v := by
  simp [inferType, hb, hi, hf]

/-- cells beyond the header width are dropped: truncating every data record to the header width
    does not change the table -/
theorem extra_cells_dropped (hdr : List τ) (rest : List (List τ)) :
    readCsv O true (hdr :: rest) = readCsv O true (hdr :: rest.map (List.take hdr.length)) := by
  refine List.ext_getElem? fun c => ?_
  simp only [readCsv_cons, List.getElem?_mapIdx]
  cases hc : (headerOf O true hdr)[c]? with
  | none => rfl
  | some name =>
    have hlt : c < hdr.length := headerOf_length O true hdr ▸ (List.getElem?_eq_some_iff.mp hc).1
    simp [dataRecords, column_map_take O hlt]

/-- the dtype of every column is the ordinary inference rule applied to its cells (C04: the join
    of the kinds that occur, nullable iff a None occurs — in particular independent of whether
    the first cell of the column is empty) -/
theorem dtype_by_infer (tagOf : ν → Tag) (hh : Bool) (all : List (List τ))
    (hrec : dataRecords hh all ≠ []) :
    ∀ col ∈ readCsv O hh all, colDType tagOf col.data = some (inferSpec (col.data.map tagOf)) := by
  intro col hcol
  have hl := rectangular O hh all col hcol
  have hne : col.data ≠ [] := by
    intro h
    rw [h] at hl
    exact hrec (List.length_eq_zero_iff.mp hl.symm)
  simp [colDType, hne, infer_eq_spec]

/-- header only: the columns exist, named verbatim, with no rows — an empty table, not an error -/
theorem header_only_empty_table (hdr : List τ) :
    readCsv O true [hdr] = hdr.map (fun h => { name := O.raw h, data := [] }) ∧
    nrows (readCsv O true [hdr]) = 0 :=
  ⟨by simp [readCsv], by cases hdr <;> rfl⟩

/-- empty input: the table without columns -/
theorem empty_input_empty_table (hh : Bool) :
    readCsv O hh ([] : List (List τ)) = [] ∧ nrows (readCsv O hh ([] : List (List τ))) = 0 :=
  ⟨rfl, rfl⟩

/-! #### non-vacuity: a concrete jagged file with a repeated header name -/

/-- texts are strings; "values" are (tag, text) pairs; the texts "1" and "2" are ints, "2.5" is a float -/
def demoOracle : Oracle String (Tag × String) where
  raw := id
  blank := fun s => s == "" || s == " "
  int? := fun s => if s == "1" || s == "2" then some (.ty .int, s) else none
  float? := fun s => if s == "2.5" then some (.ty .float, s) else none
  text := fun s => (.ty .str, s)
  none := (.none, "")

example :
    readCsv demoOracle true [["a", "a", "b"], ["1", "x"], [], ["2", "2.5", " ", "extra"]] =
      [⟨"a", [(.ty .int, "1"), (.none, ""), (.ty .int, "2")]⟩,
       ⟨"a", [(.ty .str, "x"), (.none, ""), (.ty .float, "2.5")]⟩,
       ⟨"b", [(.none, ""), (.none, ""), (.none, "")]⟩] := by decide +kernel

example : names (readCsv demoOracle false [["1", "x"], ["2"]]) = ["col_0", "col_1"] := by decide +kernel
example : readCsv demoOracle true [["a", "b"]] = [⟨"a", []⟩, ⟨"b", []⟩] := by decide +kernel
example : readCsv demoOracle true [[], ["1", "2"]] = [] := by decide +kernel
example : (readCsv demoOracle true [["a"], ["", "1"], ["2"]]).map (fun c => colDType Prod.fst c.data)
    = [some ⟨.int, true⟩] := by decide +kernel

/-! #### the lexical layer: "fields containing delimiters, quotes or newlines are read as the csv module defines them"

`Serif.CsvLex` models `csv.reader(file_obj, delimiter=d)` with the dialect defaults `read_csv` leaves in place (CPython's
six-state machine driven line by line).  The theorems below say what that definition *means* for every text a writer of the same
dialect can produce: for every delimiter other than the quote and the line-end characters, every list of records, every field
text (delimiters, quotes, CR, LF, anything) and every admissible choice of which fields to quote, reading the written text back
yields exactly the records — so `read_csv` sees the cell texts that were written, whatever they contain. -/

open Serif.CsvLex in
/-- reading back what the writer wrote, line by line as CPython drives the reader, under every line-splitting `Policy`: what the
    reader yields does not depend on the file object's way of cutting lines -/
theorem lexer_roundtrip_any_policy (inj : Char → List Char → Bool) (p : Policy inj) (d : Char) (g : GoodDelim d) (crlf : Bool)
    (rs : List (List (Bool × List Char))) (hw : ∀ r ∈ rs, wellQuoted d r = true) :
    parseLines d (splitP inj (renderText d crlf rs)) = .ok (rs.map (·.map (·.2))) := by
  unfold parseLines
  rw [lines_splitP]
  cases rs with
  | nil => rfl
  | cons r rs' =>
    obtain ⟨u, hu⟩ := renderText_ends_nl d crlf r rs'
    have h := feedP_text p g crlf (r :: rs') [] hw
    rw [hu] at h ⊢
    rw [streamP_snoc_nl d inj p, h]
    simp [finish]

open Serif.CsvLex in
/-- in particular for a file opened with `newline=''` — how `read_csv` opens a path —, whose iteration ends lines at `'\n'`, `'\r\n'` and a lone
    `'\r'` (a quoted field that holds CR or CR LF is then delivered in pieces; inside quotes it does not matter where lines end) -/
theorem lexer_roundtrip_universal (d : Char) (g : GoodDelim d) (crlf : Bool) (rs : List (List (Bool × List Char)))
    (hw : ∀ r ∈ rs, wellQuoted d r = true) :
    parseLines d (splitP univ (renderText d crlf rs)) = .ok (rs.map (·.map (·.2))) :=
  lexer_roundtrip_any_policy univ univ_policy d g crlf rs hw

open Serif.CsvLex in
/-- line-driven and character-driven reading agree on every text, well-formed or not (including the texts the reader rejects) -/
theorem lexer_lines_eq_stream (d : Char) (t : List Char) : parseLines d (splitLF t) = parseText d t := by
  simp only [parseLines, parseText, lines_splitLF]

open Serif.CsvLex in
/-- the round trip for the character-stream view of the reader -/
theorem lexer_roundtrip (d : Char) (g : GoodDelim d) (crlf : Bool) (rs : List (List (Bool × List Char)))
    (hw : ∀ r ∈ rs, wellQuoted d r = true) :
    parseText d (renderText d crlf rs) = .ok (rs.map (·.map (·.2))) := by
  rw [← lexer_lines_eq_stream, splitLF_eq_splitP]
  exact lexer_roundtrip_any_policy lf lf_policy d g crlf rs hw

open Serif.CsvLex in
/-- … and line by line over the lines of the text split at `'\n'` (ends kept) -/
theorem lexer_roundtrip_lines (d : Char) (g : GoodDelim d) (crlf : Bool) (rs : List (List (Bool × List Char)))
    (hw : ∀ r ∈ rs, wellQuoted d r = true) :
    parseLines d (splitLF (renderText d crlf rs)) = .ok (rs.map (·.map (·.2))) := by
  rw [lexer_lines_eq_stream]; exact lexer_roundtrip d g crlf rs hw

open Serif.CsvLex in
/-- the policies are not interchangeable on arbitrary text: a bare CR inside a line is a record end for a `newline=''` file and an
    error for a stream that splits at LF only — which is why the harness hands the model the lines of the very kind of source it gives
    `read_csv` -/
example : (parseLines ',' (splitP univ "a\rb".toList)).toOption = some [["a".toList], ["b".toList]] ∧
    (parseLines ',' (splitP lf "a\rb".toList)).toOption = none ∧
    splitP univ "x\r\ny\rz\n".toList = ["x\r\n".toList, "y\r".toList, "z\n".toList] ∧
    (parseLines ',' (splitP univ "\"p\rq\r\nr\",1\r\n".toList)).toOption = some [["p\rq\r\nr".toList, "1".toList]] := by decide +kernel

open Serif.CsvLex in
/-- a text without carriage returns is read the same from every kind of source (path, file object, StringIO): all admissible
    policies cut it at `'\n'` only, and the line-driven reader then is the character-stream reader -/
theorem source_kind_irrelevant_without_cr (d : Char) (inj : Char → List Char → Bool) (p : Policy inj) (t : List Char)
    (h : ∀ c ∈ t, c ≠ '\r') : parseLines d (splitP inj t) = parseText d t := by
  rw [splitP_eq_lf_of_no_cr inj p t h, ← splitLF_eq_splitP, lexer_lines_eq_stream]

open Serif.CsvLex in
/-- a quoted field is read verbatim whatever it contains: one record, one field -/
theorem quoted_field_verbatim (d : Char) (g : GoodDelim d) (f : List Char) :
    parseText d (quote :: (escape f ++ [quote, '\n'])) = .ok [[f]] := by
  have h := lexer_roundtrip d g false [[(true, f)]] (List.forall_mem_singleton.mpr rfl)
  simpa [renderText, renderRecord, renderFields, renderField] using h

open Serif.CsvLex in
/-- a blank line is the empty record (which `read_csv` turns into a row of None, or into zero columns when it is the first line) -/
theorem blank_line_is_empty_record (d : Char) (g : GoodDelim d) (rs₁ rs₂ : List (List (Bool × List Char)))
    (h₁ : ∀ r ∈ rs₁, wellQuoted d r = true) (h₂ : ∀ r ∈ rs₂, wellQuoted d r = true) :
    parseText d (renderText d false rs₁ ++ '\n' :: renderText d false rs₂) =
      .ok (rs₁.map (·.map (·.2)) ++ [] :: rs₂.map (·.map (·.2))) := by
  have h := lexer_roundtrip d g false (rs₁ ++ [] :: rs₂) (by
    simp only [List.mem_append, List.mem_cons]
    rintro r (h | rfl | h)
    · exact h₁ r h
    · rfl
    · exact h₂ r h)
  simpa [renderText_append, renderText, renderRecord, renderFields] using h

open Serif.CsvLex in
/-- end to end: the table read from a written file is the table of the written records -/
theorem read_written_records (O : Oracle (List Char) ν) (hh : Bool) (d : Char) (g : GoodDelim d) (crlf : Bool)
    (rs : List (List (Bool × List Char))) (hw : ∀ r ∈ rs, wellQuoted d r = true) :
    (parseText d (renderText d crlf rs)).map (readCsv O hh) = .ok (readCsv O hh (rs.map (·.map (·.2)))) := by
  rw [lexer_roundtrip d g crlf rs hw]; rfl

open Serif.CsvLex in
/-- the four delimiters the check drives (the tab among them) are admissible -/
theorem usual_delimiters_good : GoodDelim ',' ∧ GoodDelim ';' ∧ GoodDelim '\t' ∧ GoodDelim '|' :=
  ⟨⟨by decide, by decide⟩, ⟨by decide, by decide⟩, ⟨by decide, by decide⟩, ⟨by decide, by decide⟩⟩

/-! non-vacuity of the lexer theorems: a record with an embedded delimiter, quote, CR LF and a bare field; a lone empty field
    must be quoted (bare it *is* the blank line); an unterminated quote runs to the end of the input; a bare CR inside a
    line the reader does not split is rejected -/
open Serif.CsvLex in
example : wellQuoted ',' [(true, "a,\"b\r\nc".toList), (false, "x y".toList), (false, [])] = true ∧
    (parseText ',' "\"a,\"\"b\r\nc\",x y,\n".toList).toOption = some [["a,\"b\r\nc".toList, "x y".toList, []]] := by decide +kernel
open Serif.CsvLex in
example : wellQuoted ',' [(false, [])] = false ∧ (parseText ',' "\n".toList).toOption = some [[]] ∧
    (parseText ',' "\"\"\n".toList).toOption = some [[[]]] := by decide +kernel
open Serif.CsvLex in
example : (parseText ',' "\"ab".toList).toOption = some [["ab".toList]] ∧ (parseText ',' "a\rb".toList).toOption = none ∧
    (parseLines ',' ["a\r".toList, "b".toList]).toOption = some [["a".toList], ["b".toList]] := by decide +kernel

end Serif.C19
