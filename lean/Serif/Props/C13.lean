/-
  C13 — window functions keep every row in place and agree with aggregate.
  Same model as C12
  (Serif/Model/Group.lean): `windowCol` is `compute_group_values` followed by `expand_to_rows`.
-/
import Serif.Proofs.Group

namespace Serif.C13
open Serif.Group

section column
variable {κ α β : Type} [DecidableEq κ]

/-- `expand_to_rows` never meets a key that `compute_group_values` did not store (no KeyError), and row `i`
    receives `f` of the values of the rows that share row `i`'s key, for ANY per-group function `f` -/
theorem window_col_closed_form (data : List α) (keys : List κ) (f : List α → β) :
    windowCol data keys f = .ok (keys.map (fun k => f (groupVals keys data k))) :=
  windowCol_eq data keys f

/-- a window column has one entry per input row (that they stand in input order is `window_col_closed_form`) -/
theorem row_count_and_order (data : List α) (keys : List κ) (f : List α → β) (w : List β)
    (h : windowCol data keys f = .ok w) : w.length = keys.length := by
  rw [windowCol_eq] at h
  cases h
  simp

/-- the defining equation: row `i` of the window column is the aggregate column at the output row of
    row `i`'s group (`groupIndex` = position of the key among the distinct keys in first-appearance order) -/
theorem eq_aggregate_expanded (data : List α) (keys : List κ) (f : List α → β) (w : List β)
    (h : windowCol data keys f = .ok w) (i : Nat) (hi : i < keys.length) :
    w[i]? = (aggCol data (partition keys) f)[groupIndex keys keys[i]]? := by
  rw [windowCol_eq] at h; cases h
  rw [aggCol_partition, aggSpec, groupIndex,
    List.getElem?_map_idxOf (dedup keys) (fun k => f (groupVals keys data k)) keys[i]
      ((mem_dedup keys _).mpr (List.getElem_mem hi))]
  simp [List.getElem?_eq_getElem hi]

/-- as a list: the window column is the aggregate column joined back to the rows on the key -/
theorem eq_aggregate_joined_back (data : List α) (keys : List κ) (f : List α → β) :
    windowCol data keys f =
      .ok ((keys.map (groupIndex keys)).filterMap ((aggCol data (partition keys) f)[·]?)) := by
  rw [windowCol_eq, aggCol_partition, aggSpec, expand_groupIndex keys keys _ (fun _ h => h)]

/-- rows of one group receive identical values -/
theorem same_group_same_value (data : List α) (keys : List κ) (f : List α → β) (w : List β)
    (h : windowCol data keys f = .ok w) (i j : Nat) (hij : keys[i]? = keys[j]?) : w[i]? = w[j]? := by
  rw [windowCol_eq] at h; cases h
  simp [List.getElem?_map, hij]

end column

section whole
variable {κc ρ α β : Type} [DecidableEq κc]

/-- `window` accepts exactly the arguments `aggregate` accepts; its only error is the length check -/
theorem window_ok_iff (sfx : Nat → String) (a : Args κc ρ α β) :
    ((∃ cols, window sfx a = .ok cols) ↔ (keyLensOk a = true ∧ aggLensOk a = true)) ∧
    ((∃ cols, window sfx a = .ok cols) ↔ ∃ cols, aggregate sfx a = .ok cols) ∧
    ∀ e, window sfx a = .error e → e = .value := by
  rw [window_eq, aggregate_eq]
  split <;> simp [*]

/-- the whole result in specification form: the key columns themselves, then per built-in argument and per
    custom entry one column whose row `i` is the (textbook) value of the group of row `i` -/
theorem window_eq_spec (sfx : Nat → String) (a : Args κc ρ α β) (cols : List (OutCol κc ρ β))
    (h : window sfx a = .ok cols) : cols.map (·.cells) = windowCellsSpec a := (window_ok sfx a cols h).1

/-- the partition key columns are reproduced unchanged, first -/
theorem keys_unchanged (sfx : Nat → String) (a : Args κc ρ α β) (cols : List (OutCol κc ρ β))
    (h : window sfx a = .ok cols) :
    (cols.take a.over.length).map (·.cells) = a.over.map (fun c => OutCells.objs c.objs) := by
  rw [List.map_take, window_eq_spec sfx a cols h]
  simp [windowCellsSpec]

/-- every column of the result has the table's row count (`hobjs`: the two views of a key column that the wire
    carries — equality classes and cells — have the same length) -/
theorem result_row_count (sfx : Nat → String) (a : Args κc ρ α β) (cols : List (OutCol κc ρ β))
    (h : window sfx a = .ok cols) (hobjs : ∀ c ∈ a.over, c.objs.length = c.cells.length) :
    ∀ c ∈ cols, c.cells.length = a.nrows := by
  have hk : keyLensOk a = true := (((window_ok_iff sfx a).1).mp ⟨cols, h⟩).1
  rw [keyLensOk_iff] at hk
  intro c hc
  have hm : c.cells ∈ windowCellsSpec a := window_eq_spec sfx a cols h ▸ List.mem_map_of_mem hc
  refine length_of_mem_cells a _ (keysOf a) _ _ (fun kcol hkc => ?_) (keysOf_length a) c.cells hm
  obtain ⟨kc, hkc', rfl⟩ := List.mem_map.mp hkc
  exact (hobjs kc hkc').trans (hk kc hkc')

/-- window = aggregate joined back to the rows on the partition key: same column names, and every non-key
    column of window is the corresponding aggregate column read at each row's group index -/
theorem window_eq_aggregate_joined_back (sfx : Nat → String) (a : Args κc ρ α β)
    (wcols acols : List (OutCol κc ρ β)) (hw : window sfx a = .ok wcols) (ha : aggregate sfx a = .ok acols) :
    wcols.map (·.name) = acols.map (·.name) ∧
    (wcols.drop a.over.length).map (·.cells) =
      (acols.drop a.over.length).map
        (fun c => c.cells.expand ((keysOf a).map (groupIndex (keysOf a)))) := by
  constructor
  · rw [(window_ok sfx a wcols hw).2, (aggregate_ok sfx a acols ha).2]
  · rw [List.map_drop, window_eq_spec sfx a wcols hw, windowCellsSpec_drop, ← (aggregate_ok sfx a acols ha).1,
      ← List.map_drop, List.map_map]
    rfl

end whole

/-! #### non-vacuity -/

-- interleaved groups with unequal values: values come back in row order, not in group order
example : (windowCol [some 5, none, some 7, some 1, none] [2, 9, 2, 1, 9] sumF).toOption = some [12, 0, 12, 1, 0] := by decide
example : aggCol [some 5, none, some 7, some 1, none] (partition [2, 9, 2, 1, 9]) sumF = [12, 0, 1] := by decide
example : [2, 9, 2, 1, 9].map (groupIndex [2, 9, 2, 1, 9]) = [0, 1, 0, 2, 1] := by decide
example : (windowCol [some 5, none, some 7, some 1, none] [some 2, none, some 2, some 1, none] minF).toOption
    = some [some 5, none, some 5, some 1, none] := by decide
example : (window (fun i => toString i) exampleArgs).toOption.map (fun cols => cols.map (·.cells.length))
    = some [5, 5, 5, 5] := by decide +kernel
example : (window (fun i => toString i) exampleArgs).toOption.map (fun cols => cols.map (·.name))
    = (aggregate (fun i => toString i) exampleArgs).toOption.map (fun cols => cols.map (·.name)) := by decide +kernel

end Serif.C13
