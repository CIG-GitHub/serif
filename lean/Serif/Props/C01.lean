/-
  C01 — value semantics: writes stay local, read-only operations are pure.
  Theorems about the object-identity model `Serif.Heap` (Model/ObjHeap.lean).
-/
import Serif.Proofs.ObjHeap

namespace Serif.C01
open Serif Serif.Heap

variable (fpOf : VecVal → Int)

/-- **write frame.** An accepted in-place write through handle `r` (object `w`) leaves what any handle `r'` shows
    unchanged, unless `r'` is bound to `w` itself or to a table that holds `w` as a column. -/
theorem write_frame (h : Heap) (r r' w o : Nat) (v : VecVal)
    (hr : h.root r = some w) (hr' : h.root r' = some o) (hi : h.indep o w = true) :
    (step fpOf h (.mutate r v)).view r' = h.view r' := by
  refine view_mutate_of_indep fpOf h r r' w v hr fun o' e => ?_
  cases hr'.symm.trans e
  exact hi

/-- the written handle shows the written content -/
theorem write_shows (h : Heap) (r w : Nat) (v v0 : VecVal) (fp : Option Int)
    (hr : h.root r = some w) (hw : h.objs w = some (.vec v0 fp)) :
    (step fpOf h (.mutate r v)).view r = some (.vec v) := by
  simp only [step, hr]
  simp only [view, root, setVec_roots] at *
  rw [hr]
  exact abs_setVec_self h w v v0 fp hw

/-- in a well-formed heap at most one table can hold the written object, so a write through a column view
    is visible in that one table only -/
theorem owner_unique (h : Heap) (wf : WF h) (o1 o2 w : Nat)
    (h1 : w ∈ h.columnsOf o1) (h2 : w ∈ h.columnsOf o2) : o1 = o2 :=
  let ⟨c1, e1, m1⟩ := mem_columnsOf.mp h1
  let ⟨c2, e2, m2⟩ := mem_columnsOf.mp h2
  wf.own o1 o2 c1 c2 w e1 e2 m1 m2

/-- **table write frame.** A write through a table handle changes only that table and the live views of its
    columns: any handle bound to another object that is not one of its columns shows what it showed. -/
theorem tab_write_frame (h : Heap) (wf : WF h) (t r' ot o : Nat) (vs : List VecVal)
    (ht : h.root t = some ot) (hr' : h.root r' = some o)
    (hne : o ≠ ot) (hcol : o ∉ h.columnsOf ot) :
    (step fpOf h (.tabMutate t vs)).view r' = h.view r' := by
  rw [step_tabMutate fpOf vs ht]
  refine view_congr (congrFun (setVecs_roots h _ vs) r') fun o' e => ?_
  cases hr'.symm.trans e
  -- `o` is none of the written columns, and holds none of them: their one owner is `ot`
  exact abs_setVecs_indep h o _ vs fun c hc =>
    indep_iff.mpr ⟨fun e => hcol (e ▸ hc), fun hm => hne (owner_unique h wf o ot c hm hc)⟩

/-- **read-only operations are pure.** Reading a fingerprint, a failed or refused operation, obtaining a column
    view and dropping a handle change what no object shows. -/
theorem readonly_frame (h : Heap) (op : HOp)
    (hop : (∃ r, op = .fingerprint r) ∨ op = .noop ∨ (∃ d t j, op = .getCol d t j) ∨ (∃ r, op = .drop r)) :
    ∀ o, (step fpOf h op).abs o = h.abs o := by
  intro o
  -- `derive`, `setAttr`, `mutate`, `tabMutate` are none of the four: `hop` is absurd there
  exact step_cases fpOf h (P := fun op h' => ((∃ r, op = .fingerprint r) ∨ op = .noop ∨ (∃ d t j, op = .getCol d t j) ∨
    (∃ r, op = .drop r)) → h'.abs o = h.abs o) op
    (same := fun _ _ => rfl)
    (derive := fun _ _ hop => by simp at hop)
    (getCol := fun _ _ _ _ _ _ _ _ _ _ => rfl)
    (setAttr := fun _ _ _ _ _ _ _ _ _ _ _ _ _ _ _ hop => by simp at hop)
    (mutate := fun _ _ _ _ hop => by simp at hop)
    (tabMutate := fun _ _ _ _ _ _ hop => by simp at hop)
    (drop := fun _ _ => rfl)
    (fingerprint := fun _ cols _ => memo_foldl_abs fpOf cols h o) hop

/-- … and they leave every other handle bound as it was, so every handle shows what it showed -/
theorem readonly_view (h : Heap) (r r' : Nat) :
    (step fpOf h (.fingerprint r)).view r' = h.view r' ∧ (step fpOf h .noop).view r' = h.view r' := by
  refine ⟨view_congr (congrFun ?_ r') fun o _ => readonly_frame fpOf h (.fingerprint r) (Or.inl ⟨r, rfl⟩) o, rfl⟩
  simp only [step]
  split
  · split
    · rfl
    · exact memo_foldl_roots fpOf _ h
    · rfl
  · rfl

/-- a refused write (AliasError) or any failed operation is a no-op on the whole heap -/
theorem refusal_is_noop (h : Heap) : step fpOf h .noop = h := rfl

/-- **derived objects are fresh.** An operation returning a new vector or table binds `dst` to an object graph
    that shows the returned value, every other handle shows what it showed, … -/
theorem derive_frame (h : Heap) (wf : WF h) (dst : Nat) (val : AbsVal) :
    (step fpOf h (.derive dst val)).view dst = some val ∧
    ∀ r', r' ≠ dst → (step fpOf h (.derive dst val)).view r' = h.view r' := by
  obtain ⟨_, _, _, e, f⟩ := alloc_spec h val wf
  constructor
  · rw [view, root_derive, if_pos rfl]
    exact f
  · intro r' hr'
    -- allocation touches no object below `h.next`, and `r'` still points where it pointed
    rw [← wf.view_eq_of_objs_lt (alloc_roots h val) e r']
    unfold view
    rw [root_derive, if_neg hr', root, root, alloc_roots]
    rfl

/-- … and the new object shares nothing with any object that existed before: later writes through the new handle
    cannot reach an older object, and writes through older handles cannot reach the new one.
    (This is the statement for "inputs a table was built from, tables derived by selection, slicing, filtering,
    stacking, joining or sorting, copies".) -/
theorem derive_independent (h : Heap) (wf : WF h) (dst : Nat) (val : AbsVal) (o : Nat) (ho : o < h.next) :
    let h' := step fpOf h (.derive dst val)
    ∀ n, h'.root dst = some n → h'.indep o n = true ∧ h'.indep n o = true ∧
      (∀ c ∈ h'.columnsOf n, h'.indep o c = true ∧ h'.indep c o = true) := by
  intro h' n hn
  obtain ⟨_, b, _, e, _⟩ := alloc_spec h val wf
  have hn' : n = (h.alloc val).2 := by
    rw [root_derive, if_pos rfl] at hn
    exact (Option.some.inj hn).symm
  have wf' : WF h' := step_wf fpOf h _ wf
  -- columns of old objects are old; columns of the new object are new
  have oldcols : ∀ x ∈ h'.columnsOf o, x < h.next := fun x hx =>
    wf.columnsOf_lt (o := o) (by simpa only [columnsOf, obj, show h'.objs o = h.objs o from e o ho] using hx)
  have newcols : ∀ x ∈ h'.columnsOf n, h.next ≤ x := hn' ▸ columnsOf_alloc_ge h val
  -- so `h.next` separates `o` and what it holds from `n` and what it holds
  have sep : ∀ a b, a < h.next → h.next ≤ b → (∀ x ∈ h'.columnsOf a, x < h.next) → (∀ x ∈ h'.columnsOf b, h.next ≤ x) →
      h'.indep a b = true ∧ h'.indep b a = true := fun a b ha hb ca cb =>
    have hab : a < b := Nat.lt_of_lt_of_le ha hb
    ⟨indep_iff.mpr ⟨Nat.ne_of_lt hab, fun hm => Nat.lt_irrefl _ (Nat.lt_of_lt_of_le (ca b hm) hb)⟩,
      indep_iff.mpr ⟨Nat.ne_of_gt hab, fun hm => Nat.lt_irrefl _ (Nat.lt_of_lt_of_le ha (cb a hm))⟩⟩
  have hn : h.next ≤ n := hn' ▸ b
  refine ⟨(sep o n ho hn oldcols newcols).1, (sep o n ho hn oldcols newcols).2, fun c hc =>
    sep o c ho (newcols c hc) oldcols fun x hx => ?_⟩
  -- `c` is a vector object: it has no columns
  obtain ⟨z, fp, hz⟩ := wf'.columnsOf_vec hc
  simp [columnsOf, obj, hz] at hx

/-- **column replacement stores a copy.** `t.<name> = src` changes what the table shows and nothing else:
    every handle bound to another object — in particular `src` and earlier views of the replaced column — shows
    what it showed. -/
theorem setAttr_frame (h : Heap) (wf : WF h) (t j src r' ot o : Nat)
    (ht : h.root t = some ot) (hr' : h.root r' = some o) (hne : o ≠ ot) :
    (step fpOf h (.setAttr t j src)).view r' = h.view r' := by
  simp only [step, ht]
  split
  · next ot' os hot hos =>
    cases hot
    split
    · next cols sv hcols hsv =>
      split
      · -- the step writes the new object and `ot`; `o` is neither, and its columns are old vector objects
        refine view_congr rfl fun o' e => ?_
        cases hr'.symm.trans e
        have old : ∀ x, x < h.next → x ≠ ot → ∀ v tb, upd (h.allocVec v).1.objs ot tb x = h.objs x :=
          fun x hx hxo v tb => (upd_ne _ _ _ _ hxo).trans (allocVec_objs_ne h v x (Nat.ne_of_lt hx))
        refine abs_eq_of_objs_eq (old o (wf.roots_lt r' o hr') hne _ _) fun x hx =>
          old x (wf.columnsOf_lt hx) (fun e => ?_) _ _
        obtain ⟨z, fp, hz⟩ := wf.columnsOf_vec hx
        cases hz.symm.trans ((congrArg h.objs e).trans hcols)
      · rfl
    · rfl
  · rfl

/-- **every reachable heap is well-formed** — whatever finite interleaving of constructions, derivations,
    views, column replacements, writes, drops and fingerprint calls produced it. -/
theorem reachable_wf (ops : List HOp) : WF (run fpOf Heap.empty ops) :=
  run_induction fpOf (step_wf fpOf) ops Heap.empty wf_empty

/-- **value semantics over histories.** After any history, an accepted write through handle `r` changes what
    another handle `r'` shows only if `r'` is bound to the written object itself or to the one table holding it;
    every other handle still shows exactly its previous contents, names and dtypes. -/
theorem value_semantics (ops : List HOp) (r r' w o : Nat) (v : VecVal) :
    let h := run fpOf Heap.empty ops
    h.root r = some w → h.root r' = some o → o ≠ w →
    (∀ t, w ∈ h.columnsOf t → o ≠ t) →
    (step fpOf h (.mutate r v)).view r' = h.view r' := by
  intro h hr hr' hne hown
  exact write_frame fpOf h r r' w o v hr hr' (indep_iff.mpr ⟨hne, fun hm => hown o hm rfl⟩)

private def v1 : VecVal := { data := [1, 2, 3], dtype := some ⟨.int, false⟩, name := some "a" }
private def v2 : VecVal := { data := [4, 5, 6], dtype := some ⟨.int, false⟩, name := some "b" }
private def v9 : VecVal := { data := [9, 2, 3], dtype := some ⟨.int, false⟩, name := some "a" }
private def fp0 : VecVal → Int := fun _ => 0

/-- build `d`, build a table, take a view of its column 0, assign `d` as column 0 (a copy is stored; the view stays bound to the
    replaced object), write through `d`: the write reaches neither the table nor the view -/
example :
    let h := run fp0 Heap.empty [.derive 0 (.vec v1), .derive 1 (.tab [v1, v2]), .getCol 2 1 0, .setAttr 1 0 0,
                                 .mutate 0 v9]
    h.view 0 = some (.vec v9) ∧ h.view 1 = some (.tab [v1, v2]) ∧ h.view 2 = some (.vec v1) := by decide +kernel

/-- a write through a live column view is visible in its table and nowhere else -/
example :
    let h := run fp0 Heap.empty [.derive 0 (.tab [v1, v2]), .derive 1 (.tab [v1, v2]), .getCol 2 0 0, .mutate 2 v9]
    h.view 0 = some (.tab [v9, v2]) ∧ h.view 1 = some (.tab [v1, v2]) := by decide +kernel

end Serif.C01
