/-
  C12 — group-by aggregation: one row per key in first-appearance order, correct values.
  All statements are about the definitions of Serif/Model/Group.lean that the driver executes, for every key type
  with decidable equality (None is just another key), every value list and every custom function.
-/
import Serif.Proofs.Group

namespace Serif.C12
open Serif.Group

section partition
variable {κ : Type} [DecidableEq κ]

/-- the keys of the partition index are the distinct keys of the table in first-appearance order -/
theorem partition_keys_first_appearance (keys : List κ) :
    Dict.keys (partition keys) = dedup keys := by
  rw [partition_eq]; simp [Dict.keys, List.map_map, Function.comp_def]

/-- what "distinct keys in first-appearance order" means: no repeats, exactly the keys that occur,
    ordered by the row of their first occurrence (these three facts determine the list) -/
theorem first_appearance_characterised (keys : List κ) :
    (dedup keys).Nodup ∧ (∀ k, k ∈ dedup keys ↔ k ∈ keys) ∧
    (dedup keys).Pairwise (fun a b => keys.idxOf a < keys.idxOf b) :=
  ⟨dedup_nodup keys, mem_dedup keys, dedup_sorted_by_first_index keys⟩

/-- the bucket of `k` is the list of exactly the rows whose key is `k`; a key that does not occur has no bucket -/
theorem partition_rows_filter (keys : List κ) (k : κ) :
    Dict.get? (partition keys) k = if k ∈ keys then some (rowsOf keys k) else none := by
  simp only [partition_eq, Dict.get?_map_pair, mem_dedup]

/-- … and that list is ascending, contains row `i` iff `keys[i] = k`, and is non-empty for a key that occurs -/
theorem partition_rows_ascending (keys : List κ) (k : κ) :
    (rowsOf keys k).Pairwise (· < ·) ∧ (∀ i, i ∈ rowsOf keys k ↔ keys[i]? = some k) ∧
    (k ∈ keys → rowsOf keys k ≠ []) :=
  ⟨rowsOf_ascending keys k, mem_rowsOf keys k, rowsOf_ne_nil keys k⟩

/-- `group_items` in closed form -/
theorem group_items_closed_form (keys : List κ) :
    partition keys = (dedup keys).map (fun k => (k, rowsOf keys k)) := partition_eq keys

/-- gathering a column through a bucket gives the values of the rows with that key, in row order
    (also when the column is shorter or longer than the key list: both sides stop at the shorter one) -/
theorem gather_is_group {α : Type} (keys : List κ) (data : List α) (k : κ) :
    gather data (rowsOf keys k) = groupVals keys data k := gather_rowsOf keys data k

/-- `aggregate_col` with ANY function `f` is textbook group-by: one entry per distinct key, in first-appearance
    order, `f` applied to the values of that key's rows in row order -/
theorem aggregate_col_eq_groupby {α β : Type} (data : List α) (keys : List κ) (f : List α → β) :
    aggCol data (partition keys) f = (dedup keys).map (fun k => f (groupVals keys data k)) :=
  aggCol_partition data keys f

/-- one output row per distinct key -/
theorem one_row_per_key {α β : Type} (data : List α) (keys : List κ) (f : List α → β) :
    (aggCol data (partition keys) f).length = (dedup keys).length := by
  rw [aggCol_partition]; simp [aggSpec]

/-- a custom function is called exactly once per group, in group order, with that group's values (None
    included: nothing is filtered) in row order -/
theorem apply_called_once_per_group_in_order {α : Type} (data : List α) (keys : List κ) :
    callLog data (partition keys) = (dedup keys).map (fun k => groupVals keys data k) :=
  callLog_partition data keys

end partition

/-- sum (a left fold from 0 in the code) is the sum of the non-None values; an all-None group gives 0 -/
theorem sum_textbook (vals : List (Option Int)) :
    sumF vals = (clean vals).sum ∧ (clean vals = [] → sumF vals = 0) :=
  ⟨sumF_eq vals, fun e => by rw [sumF_eq, e]; rfl⟩

/-- count is the number of non-None values; an all-None group gives 0 -/
theorem count_textbook (vals : List (Option Int)) :
    countF vals = (clean vals).length ∧ (clean vals = [] → countF vals = 0) :=
  ⟨countF_eq vals, fun e => by rw [countF_eq, e]; rfl⟩

/-- min is the least non-None value (Python's first-minimum scan = `List.min?`), None for an all-None group -/
theorem min_textbook (vals : List (Option Int)) :
    minF vals = (clean vals).min? ∧ (clean vals = [] → minF vals = none) ∧
    ∀ m, minF vals = some m ↔ m ∈ clean vals ∧ ∀ v ∈ clean vals, m ≤ v := by
  have h : minF vals = (clean vals).min? := pyMin_eq _
  refine ⟨h, fun e => by rw [h, e]; rfl, fun m => ?_⟩
  rw [h]; exact tbMin_spec _ m

theorem max_textbook (vals : List (Option Int)) :
    maxF vals = (clean vals).max? ∧ (clean vals = [] → maxF vals = none) ∧
    ∀ m, maxF vals = some m ↔ m ∈ clean vals ∧ ∀ v ∈ clean vals, v ≤ m := by
  have h : maxF vals = (clean vals).max? := pyMax_eq _
  refine ⟨h, fun e => by rw [h, e]; rfl, fun m => ?_⟩
  rw [h]; exact tbMax_spec _ m

/-- mean is Σ/n over the non-None values as an exact rational, None for an all-None group -/
theorem mean_textbook (vals : List (Option Int)) :
    meanF vals = tbMean (clean vals) ∧ (clean vals = [] → meanF vals = none) := by
  refine ⟨meanF_eq vals, fun e => ?_⟩
  rw [meanF_eq, e]; rfl

/-- stdev² is the sample variance Σ(v − mean)²/(n − 1) of the non-None values; fewer than two values give None -/
theorem stdev_textbook (vals : List (Option Int)) :
    varF vals = tbVar (clean vals) ∧ ((clean vals).length < 2 → varF vals = none) := by
  refine ⟨varF_eq vals, fun h => ?_⟩
  rw [varF_eq]; simp [tbVar, h]

/-- the sample variance in its computational form (n·Σv² − (Σv)²) / (n·(n − 1)) -/
theorem stdev_second_moment_form (c : List Int) (h : 2 ≤ c.length) :
    tbVar c = some (((c.length : Rat) * (c.map (fun (v : Int) => (v : Rat) ^ 2)).sum - ((c.sum : Int) : Rat) ^ 2)
      / ((c.length : Rat) * ((c.length : Rat) - 1))) := by
  have hn : (c.length : Rat) ≠ 0 := by exact_mod_cast (by omega : c.length ≠ 0)
  have hn1 : (c.length : Rat) - 1 ≠ 0 := by
    have hne1 : (c.length : Rat) ≠ 1 := by exact_mod_cast (by omega : c.length ≠ 1)
    intro e
    apply hne1
    rw [← Rat.sub_add_cancel (a := (c.length : Rat)) (b := 1), e, Rat.zero_add]
  rw [tbVar, if_neg (by omega : ¬ c.length < 2)]
  dsimp only
  rw [sum_sq_dev, sum_cast]
  grind

/-- all six at once, in the form the driver evaluates -/
theorem builtin_textbook (fn : Fn) (vals : List (Option Int)) :
    builtin fn vals = textbook fn (clean vals) := builtin_eq_textbook fn vals

section whole
variable {κc ρ α β : Type} [DecidableEq κc]

/-- `aggregate` succeeds exactly when every key, value and apply column has the table's length -/
theorem aggregate_ok_iff (sfx : Nat → String) (a : Args κc ρ α β) :
    (∃ cols, aggregate sfx a = .ok cols) ↔ (keyLensOk a = true ∧ aggLensOk a = true) := by
  rw [aggregate_eq]
  split <;> simp [*]

/-- the result of `aggregate`, column by column: first one column per partition key holding the distinct key
    tuples in first-appearance order, then for each built-in argument (sum, mean, min, max, count, stdev blocks)
    the textbook value over each group's non-None values, then the custom results — one row per key throughout -/
theorem aggregate_eq_spec (sfx : Nat → String) (a : Args κc ρ α β) (cols : List (OutCol κc ρ β))
    (h : aggregate sfx a = .ok cols) :
    cols.map (·.cells) = aggregateCellsSpec a := (aggregate_ok sfx a cols h).1

/-- the first `len(over)` columns: component `idx` of every distinct key tuple, in first-appearance order -/
theorem keys_first (sfx : Nat → String) (a : Args κc ρ α β) (cols : List (OutCol κc ρ β))
    (h : aggregate sfx a = .ok cols) :
    (cols.take a.over.length).map (·.cells) =
      (List.range a.over.length).map (fun idx => OutCells.keys ((dedup (keysOf a)).filterMap (·[idx]?))) := by
  rw [List.map_take, aggregate_eq_spec sfx a cols h]
  simp [aggregateCellsSpec]

/-- every result column has exactly one row per distinct key tuple -/
theorem result_one_row_per_key (sfx : Nat → String) (a : Args κc ρ α β) (cols : List (OutCol κc ρ β))
    (h : aggregate sfx a = .ok cols) (hk : keyLensOk a = true) :
    ∀ c ∈ cols, c.cells.length = (dedup (keysOf a)).length := by
  intro c hc
  have hm : c.cells ∈ aggregateCellsSpec a := aggregate_eq_spec sfx a cols h ▸ List.mem_map_of_mem hc
  refine length_of_mem_cells a _ (dedup (keysOf a)) _ _ (fun kcol hkc => ?_) rfl c.cells hm
  obtain ⟨idx, hidx, rfl⟩ := List.mem_map.mp hkc
  refine List.filterMap_length_eq_length.mpr fun k hk' => ?_
  have hlen := keysOf_row_length a hk k ((mem_dedup _ k).mp hk')
  have hi : idx < k.length := by simpa [hlen] using hidx
  simp [List.getElem?_eq_getElem hi]

omit [DecidableEq κc] in
/-- composite keys: two rows fall into the same group iff they agree on every key column (so tuples that agree on
    one component only are different keys) -/
theorem composite_key_eq_iff (a : Args κc ρ α β) (h : keyLensOk a = true) (i j : Nat)
    (hi : i < a.nrows) (hj : j < a.nrows) :
    (keysOf a)[i]? = (keysOf a)[j]? ↔ ∀ c ∈ a.over, c.cells[i]? = c.cells[j]? := by
  rw [keyLensOk_iff] at h
  -- every key column has a cell in every row, so a key tuple has all its components
  have full : ∀ r < a.nrows, ∀ c ∈ a.over.map (fun c => c.cells), (c[r]?).isSome := by
    intro r hr c hc
    obtain ⟨kc, hkc, rfl⟩ := List.mem_map.mp hc
    simp [h kc hkc, hr]
  rw [keysOf_getElem? a i hi, keysOf_getElem? a j hj, Option.some.injEq,
    List.filterMap_eq_filterMap_iff_of_isSome (full i hi) (full j hj)]
  simp

/-- the custom functions of the whole call: each is called once per group, in group order, with the group's cells -/
theorem apply_logs (a : Args κc ρ α β) :
    applyLogs a = a.apply.map (fun p => (dedup (keysOf a)).map (fun k => groupVals (keysOf a) p.data k)) := by
  unfold applyLogs
  apply List.map_congr_left
  intro p _
  exact callLog_partition _ _

end whole

/-- `Vector.sum/mean/min/max/stdev` on a vector with at least one non-None value return what `aggregate` computes
    for that column taken as a single group (any constant key) -/
theorem vector_reduction_eq_single_group {κ : Type} [DecidableEq κ] (fn : Fn) (vals : List (Option Int)) (k : κ)
    (h : clean vals ≠ []) :
    (aggCol vals (partition (List.replicate vals.length k)) (builtin fn)).map some = [vecReduce fn vals] := by
  have hv : vals ≠ [] := by
    intro e
    apply h
    rw [e]
    rfl
  rw [aggCol_single_group vals k _ hv, vecReduce_eq fn vals h]
  rfl

/-- the `while` loop of `uniquify` ends within `len(used) + 1` iterations, at the smallest numeric suffix ≥ 2
    that is still free, for every injective rendering of the number -/
theorem uniquify_terminates (sfx : Nat → String) (name : String)
    (hinj : ∀ i j, name ++ sfx i = name ++ sfx j → i = j) (used : List String) :
    ∃ j, 2 ≤ j ∧ uniqLoop sfx name used (used.length + 1) 2 = name ++ sfx j ∧ name ++ sfx j ∉ used ∧
      ∀ j', 2 ≤ j' → j' < j → name ++ sfx j' ∈ used :=
  uniqLoop_spec sfx name hinj (used.length + 1) used 2 (Nat.lt_succ_self _)

/-- `uniquify` keeps a free name as it is, and always hands out a name that was not used before -/
theorem uniquify_fresh_name (sfx : Nat → String) (hinj : ∀ name i j, name ++ sfx i = name ++ sfx j → i = j)
    (used : List String) (name : String) :
    (name ∉ used → (uniquify sfx used name).1 = name) ∧ (uniquify sfx used name).1 ∉ used := by
  refine ⟨fun h => ?_, (uniquify_fresh sfx hinj used name).1⟩
  simp [uniquify, h]

/-- Python's rendering of the suffix (`str(i)`, modelled by `toString`) is injective -/
theorem suffix_rendering_injective (name : String) (i j : Nat) (h : name ++ toString i = name ++ toString j) :
    i = j := toString_suffix_injective name i j h

/-- the column names of an aggregate result are pairwise distinct -/
theorem agg_names_nodup {κc ρ α β : Type} [DecidableEq κc] (a : Args κc ρ α β) (cols : List (OutCol κc ρ β))
    (h : aggregate (fun i => toString i) a = .ok cols) : (cols.map (·.name)).Nodup := by
  rw [(aggregate_ok _ a cols h).2]
  exact (uniquifyAll_fresh_nodup _ (fun n i j e => toString_suffix_injective n i j e) _ _).1

/-- their form: a name that is free stays as it is — key columns are called `col._name or "key"`, built-in
    columns `<sanitised>_<fn>`, custom columns by their dictionary key — in column order -/
theorem agg_names_form {κc ρ α β : Type} [DecidableEq κc] (a : Args κc ρ α β) (cols : List (OutCol κc ρ β))
    (h : aggregate (fun i => toString i) a = .ok cols) (hn : (rawNames a).Nodup) :
    cols.map (·.name) = rawNames a := by
  rw [(aggregate_ok _ a cols h).2]
  exact uniquifyAll_of_nodup _ _ [] hn (by simp)

/-! #### non-vacuity: concrete inputs -/

-- interleaved groups, a None key (`none`), first-appearance order
example : partition [some 2, none, some 2, some 1, none] = [(some 2, [0, 2]), (none, [1, 4]), (some 1, [3])] := by decide
example : dedup [some 2, none, some 2, some 1, none] = [some 2, none, some 1] := by decide
example : aggCol [some 5, none, some 7, some 1, none] (partition [2, 9, 2, 1, 9]) sumF = [12, 0, 1] := by decide
example : aggCol [some 5, none, some 7, some 1, none] (partition [2, 9, 2, 1, 9]) countF = [2, 0, 1] := by decide
example : aggCol [some 5, none, some 7, some 1, none] (partition [2, 9, 2, 1, 9]) minF = [some 5, none, some 1] := by decide
example : aggCol [some 5, none, some 7, some 1, none] (partition [2, 9, 2, 1, 9]) meanF = [some 6, none, some 1] := by
  decide +kernel
example : varF [some 1, none, some 2, some 4] = some (7 / 3) := by decide +kernel
example : callLog [some 5, none, some 7, some 1, none] (partition [2, 9, 2, 1, 9]) =
    [[some 5, some 7], [none, none], [some 1]] := by decide
example : uniquifyAll (fun i => toString i) ["k", "x_sum", "x_sum", "x_sum2", "x_sum"] [] =
    ["k", "x_sum", "x_sum2", "x_sum22", "x_sum3"] := by decide +kernel
-- a whole call: names (with uniquify), one row per key in every column
example : (aggregate (fun i => toString i) exampleArgs).toOption.map (fun cols => cols.map (·.name))
    = some ["k", "x_sum", "x_sum2", "x_sum3"] := by decide +kernel
example : (aggregate (fun i => toString i) exampleArgs).toOption.map (fun cols => cols.map (·.cells.length))
    = some [3, 3, 3, 3] := by decide +kernel

end Serif.C12
