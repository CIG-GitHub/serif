/-
  C15 — alias tracking is exact: no leaked write, no spurious refusal.
  Theorems about the registry model `Serif.AState` (Model/AliasHeap.lean), for every history and every choice of
  storage identities by the interpreter (including reuse of the identity of freed storage).
-/
import Serif.Proofs.AliasTracker

namespace Serif.C15
open Serif Serif.AState

/-- **the registry is exact in every reachable state**: after any history of creation (fresh or over shared
    storage), re-initialisation, promotion, column replacement, writes (accepted or refused) and garbage
    collection — with storage identities chosen arbitrarily, reused ones included — the live references registered
    under a storage identity are exactly the live objects using that storage. -/
theorem registry_exact (ops : List AOp) : RegExact (AState.init.run ops) :=
  run_exact ops AState.init regExact_init

/-- **refused iff really shared**: in an exact state a write through a live object with non-empty storage is
    refused if and only if another live object uses the same storage. -/
theorem refused_iff_shared (st : AState) (h : RegExact st) (o s s' : Nat) (c : List Nat)
    (ho : st.store o = some s) (hs : s ≠ 0) :
    (st.step (.write o s' c)).2 = true ↔ ∃ o', o' ≠ o ∧ st.store o' = some s := by
  rw [write_snd st o s s' c ho hs, Bool.not_eq_true', checkWritable_refuses_iff st s (h.nodup s)]
  simp only [h.mem_liveRefs_iff]
  constructor
  · rintro ⟨a, b, hne, ha, hb⟩
    by_cases e : a = o
    · exact ⟨b, fun e' => hne (e.trans e'.symm), hb⟩
    · exact ⟨a, e, ha⟩
  · rintro ⟨o', hne, ho'⟩
    exact ⟨o', o, hne, ho', ho⟩

/-- no `s ≠ 0`: empty storage is never checked -/
theorem writable_of_unshared (st : AState) (h : RegExact st) (o s s' : Nat) (c : List Nat)
    (ho : st.store o = some s) (hun : ∀ o', o' ≠ o → st.store o' ≠ some s) : (st.step (.write o s' c)).2 = false := by
  by_cases hs : s = 0
  · simp [step, ho, hs]
  · apply Bool.eq_false_iff.mpr
    intro hr
    obtain ⟨o', hne, ho'⟩ := (refused_iff_shared st h o s s' c ho hs).mp hr
    exact hun o' hne ho'

/-- **after any history**: a write is refused only while another live vector really shares the storage … -/
theorem refused_only_if_shared (ops : List AOp) (o s s' : Nat) (c : List Nat) :
    let st := AState.init.run ops
    st.store o = some s → s ≠ 0 → (st.step (.write o s' c)).2 = true → ∃ o', o' ≠ o ∧ st.store o' = some s :=
  fun ho hs hr => (refused_iff_shared _ (registry_exact ops) o s s' c ho hs).mp hr

/-- … and **an object that shares its storage with no other live object is always writable** — fresh vectors,
    copies, slices, operation results, table columns, and former sharers whose partners have since written or been
    collected — no matter how many other objects were created, re-initialised, promoted, dropped or collected
    before, and no matter which storage identities were reused. -/
theorem unshared_always_writable (ops : List AOp) (o s s' : Nat) (c : List Nat) :
    let st := AState.init.run ops
    st.store o = some s → (∀ o', o' ≠ o → st.store o' ≠ some s) → (st.step (.write o s' c)).2 = false :=
  fun ho hun => writable_of_unshared _ (registry_exact ops) o s s' c ho hun

/-- a refused write changes nothing any object shows (only dead references are pruned) -/
theorem refused_changes_nothing (st : AState) (o s' : Nat) (c : List Nat)
    (hr : (st.step (.write o s' c)).2 = true) : ∀ x, (st.step (.write o s' c)).1.view x = st.view x := by
  obtain ⟨s, e⟩ := write_fst_of_refused hr
  intro x
  rw [e, checkWritable_view]

/-- **no leaked write**: a write — accepted (it allocates new storage), refused or through a dead object — never changes what another live object
    shows, provided the interpreter does not hand out the identity of storage that is still in use by a live
    object with different contents (`Admissible` — CPython's guarantee). -/
theorem no_leak (st : AState) (o s' : Nat) (c : List Nat) (x : Nat) (hx : x ≠ o)
    (hadm : Admissible st (.write o s' c)) : (st.step (.write o s' c)).1.view x = st.view x := by
  simp only [view, write_store_ne st o s' x c hx]
  rcases write_data st o s' c with e | e
  · rw [e]
  · -- the one storage whose contents may be new is `s'`; if `x` uses it, it held `c` already
    cases hsx : st.store x with
    | none => rfl
    | some sx =>
      simp only [Option.map_some, e, setData]
      split
      · next es => rw [es, hadm x (es ▸ hsx)]
      · rfl

/-- a refusal is never caused by a stale registration: in every reachable state a live object is registered under a
    storage identity only if it uses that storage now (reused identities with dead entries included) -/
theorem no_live_stale_registration (ops : List AOp) (s o : Nat) :
    let st := AState.init.run ops
    o ∈ st.reg s → st.alive o = true → st.store o = some s :=
  fun hm ha => (registry_exact ops).exact s o hm ha

/-- **fresh vectors are writable at once**: an object just created over storage no live object uses — whatever that
    identity was used for before, whatever is still registered under it — accepts a write -/
theorem fresh_create_writable (ops : List AOp) (s : Nat) (c c' : List Nat) (s' : Nat) :
    let st := AState.init.run ops
    (∀ o, st.store o ≠ some s) →
    ((st.step (.create s c)).1.step (.write st.next s' c')).2 = false := by
  intro st hfree
  refine writable_of_unshared _ (step_exact st _ (registry_exact ops)) st.next s s' c' ?_ fun o' hne => ?_
  · simp [create_store]
  · simpa [create_store, hne] using hfree o'

/-- **former sharers become writable when the partner is collected**: if exactly two live objects share a storage and one
    of them dies, a write through the other is accepted -/
theorem writable_after_partner_collected (ops : List AOp) (o o' s s' : Nat) (c : List Nat) :
    let st := AState.init.run ops
    st.store o = some s → o' ≠ o → (∀ x, x ≠ o → x ≠ o' → st.store x ≠ some s) →
    ((st.step (.drop o')).1.step (.write o s' c)).2 = false := by
  intro st ho hne honly
  refine writable_of_unshared _ (step_exact st _ (registry_exact ops)) o s s' c ?_ fun x hx => ?_
  · simpa [step, hne.symm] using ho
  · simp only [step, setStore_store]
    split
    · simp
    · next hxo' => exact honly x hx hxo'

/-- **the tracker class refines "the set of registered pairs"**: drive `register` / `unregister` / `check_writable` directly,
    in any order, with any identities (reused at will) and with objects dying at any point, the only discipline being that
    `register` / `unregister` are passed live objects.  Then every `check_writable` raises AliasError iff two different live
    objects are registered (and not since unregistered) under that identity — dead references lingering in the registry,
    the paths on which the pruned list is or is not stored back and the deletion of empty entries never show. -/
theorem tracker_refines_spec (ops : List TOp) (v : TValidRun AState.init ops) (s : Nat) :
    let p := trun (AState.init, []) ops
    (p.1.tstep (.check s)).2 = true ↔ SpecShared p.1 p.2 s :=
  check_spec _ _ (trun_inv ops AState.init [] tinv_init v) s

/-- the history of defect #18: table object 0 is created over storage 11, re-initialised over storage 12 (storage 11 is freed), then a fresh
    vector is created over the *reused* identity 11 and written: the write is accepted -/
example :
    let st := AState.init.run [.create 11 [1], .swap 0 12 [1], .create 11 [7, 8]]
    (st.step (.write 1 13 [9, 8])).2 = false := by decide +kernel

/-- two vectors over one caller-supplied tuple: the write is refused while both live, accepted after one dies -/
example :
    let st := AState.init.run [.create 5 [1, 2], .create 5 [1, 2]]
    (st.step (.write 0 6 [9, 2])).2 = true ∧ ((st.step (.drop 1)).1.step (.write 0 6 [9, 2])).2 = false := by decide +kernel

/-- tracker level: two live objects under identity 7 are refused; after one dies the other is accepted although its dead
    reference still sits in the registry; a new object registered under the recycled identity is shared again -/
example : (((trun (AState.init, []) [.new, .new, .reg 0 7, .reg 1 7]).1.tstep (.check 7)).2 = true)
    ∧ (((trun (AState.init, []) [.new, .new, .reg 0 7, .reg 1 7, .kill 1]).1.tstep (.check 7)).2 = false)
    ∧ ((trun (AState.init, []) [.new, .new, .reg 0 7, .reg 1 7, .kill 1]).1.reg 7 = [0, 1])
    ∧ (((trun (AState.init, []) [.new, .new, .reg 0 7, .reg 1 7, .kill 1, .new, .reg 2 7]).1.tstep (.check 7)).2 = true) := by
  decide +kernel

end Serif.C15
