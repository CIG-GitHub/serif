/-
  C17 — every column is reachable by exactly one advertised, valid accessor name.
  All statements are about the definitions of Serif/Model/Names.lean that the driver executes; strings are
  arbitrary `List Char` (any Unicode scalar), name lists have any width, histories any length.
-/
import Serif.Proofs.Names

namespace Serif.C17
open Serif.Names

/-- for EVERY input string the sanitised name is `None` or a non-empty identifier whose first character
    is a letter `a–z` and whose other characters are in `[a-z0-9_]` -/
theorem sanitize_identifier (s r : Str) (h : sanitizeCore s = some r) :
    isIdent r = true ∧ ∃ c cs, r = c :: cs ∧ isLower c = true ∧ ∀ x ∈ cs, okChar x = true := by
  have hb : Base r := ⟨s, h⟩
  exact ⟨hb.ident, isIdent_iff.mp hb.ident⟩

/-- after the substitution step only characters of `[a-z0-9_]` — all ASCII — remain, whatever the input:
    Python's Unicode-aware `str.isdigit()` and `\d` therefore coincide with ASCII digits from there on -/
theorem substitution_ascii (s : Str) : ∀ c ∈ subRuns false s, okChar c = true ∧ c.toNat < 128 :=
  fun c hc => ⟨subRuns_ok false s c hc, okChar_ascii (subRuns_ok false s c hc)⟩

/-- a sanitised name is never a public Vector/Table method or property name -/
theorem not_reserved (s r : Str) (h : sanitizeCore s = some r) : r ∉ reserved :=
  Base.not_reserved ⟨s, h⟩

/-- `reserved` is the list regenerated from the live classes on this run -/
theorem reserved_is_generated : reserved = Gen.reservedNames.map String.toList := rfl

/-- the facts about the regenerated reserved list the proofs rest on (whole list, in the kernel):
    appending `_` leaves the list, no reserved name looks like `name__digits`, `col<digits>` or `col<digits>_` -/
theorem reserved_side_conditions :
    (∀ n ∈ reserved, n ++ ['_'] ∉ reserved) ∧ (∀ n ∈ reserved, matchesIndexed n = false) ∧
    (∀ n ∈ reserved, isColDigits n = false) ∧ (∀ n ∈ reserved, colNDigits n = none) :=
  ⟨reserved_suffix_free, fun n h => (reserved_ok n h).2.1, fun n h => (reserved_ok n h).2.2.1,
    fun n h => (reserved_ok n h).2.2.2⟩

/-- a sanitised name never looks like an indexed accessor `name__digits` nor like a generated `col<N>_` -/
theorem sanitize_not_generated_shape (s r : Str) (h : sanitizeCore s = some r) :
    matchesIndexed r = false ∧ colNDigits r = none ∧ ∀ i, r ≠ colN i :=
  ⟨Base.not_matches ⟨s, h⟩, Base.colNDigits_none ⟨s, h⟩, Base.ne_colN ⟨s, h⟩⟩

/-- fixed points: a sanitised name that does not end in `_` sanitises to itself; one that does
    (reserved / pattern guard) is what its stem sanitises to -/
theorem sanitize_fixed_point (s r : Str) (h : sanitizeCore s = some r) :
    (endsWithU r = false → sanitizeCore r = some r) ∧
    (endsWithU r = true → sanitizeCore r.dropLast = some r) := by
  have := Base.fixed ⟨s, h⟩
  unfold attrBase at this
  constructor
  · intro he
    simpa [he] using this
  · intro he
    simpa [he] using this

/-- an already clean name (over `[a-z0-9_]`, no outer `_`, not starting with a digit, not of the shape
    `name__digits`, not reserved) is left alone: the documented rules change nothing else -/
theorem sanitize_clean_unchanged (a : Str) (hne : a ≠ []) (hok : ∀ c ∈ a, okChar c = true)
    (hhead : ∀ c, a.head? = some c → isU c = false ∧ isDigit c = false) (hlast : a.getLast? ≠ some '_')
    (hm : matchesIndexed a = false) (hr : a ∉ reserved) : sanitizeCore a = some a := by
  have hc : Clean a := ⟨hne, hok, fun c h => (hhead c h).1, hlast⟩
  rw [hc.sanitize]
  have hp : prefixC a = a := by
    cases a with
    | nil => rfl
    | cons x xs => simp [prefixC, (hhead x rfl).2]
  simp [finish, hp, guardIndexed, hm, guardReserved_of_not_mem hr]

/-- validity: every advertised accessor is an identifier over `[a-z0-9_]` starting with a letter -/
theorem accessors_valid (names : List (Option Str)) : ∀ a ∈ accessors names, isIdent a = true := by
  intro a h
  obtain ⟨j, _, rfl | ⟨hb, _⟩ | ⟨b, hb, rfl⟩⟩ := shape_of_mem_accessorsFrom h
  · exact colN_ident j
  · exact hb.ident
  · exact indexed_ident hb.ident j

/-- no shadowing: no advertised accessor is a reserved Vector/Table attribute name -/
theorem accessors_not_reserved (names : List (Option Str)) : ∀ a ∈ accessors names, a ∉ reserved := by
  intro a h
  obtain ⟨j, _, rfl | ⟨hb, _⟩ | ⟨b, hb, rfl⟩⟩ := shape_of_mem_accessorsFrom h
  · intro hm
    have := (reserved_ok _ hm).2.2.2
    rw [colNDigits_colN] at this
    cases this
  · exact hb.not_reserved
  · intro hm
    have := (reserved_ok _ hm).2.1
    rw [indexed_matches hb.ident] at this
    cases this

/-- Python's keywords are among the reserved names of the current source (whole lists, in the kernel) … -/
theorem keywords_reserved : ∀ k ∈ Gen.pyKeywords, k.toList ∈ reserved :=
  fun k hk => List.mem_map_of_mem ((by decide +kernel : ∀ k ∈ Gen.pyKeywords, k ∈ Gen.reservedNames) k hk)

/-- … hence no advertised accessor is a Python keyword: `t.<accessor>` is always syntactically possible -/
theorem accessors_not_keyword (names : List (Option Str)) :
    ∀ a ∈ accessors names, ∀ k ∈ Gen.pyKeywords, a ≠ k.toList := by
  intro a ha k hk e
  exact accessors_not_reserved names a ha (e ▸ keywords_reserved k hk)

/-- distinctness: one accessor per column, pairwise distinct, whatever the duplication pattern -/
theorem accessors_distinct (names : List (Option Str)) :
    (accessors names).Nodup ∧ (accessors names).length = names.length :=
  ⟨accessorsFrom_nodup 0 [] names, accessors_length names⟩

/-- what `dir(t)` advertises (the keys of `_build_column_map()`, in order) are exactly these accessors,
    and the map sends the accessor of column `k` to `k` -/
theorem map_is_accessors (names : List (Option Str)) :
    Dict.keys (buildColumnMap names) = accessors names ∧
    ∀ k a, (accessors names)[k]? = some a → Dict.get? (buildColumnMap names) a = some k :=
  ⟨keys_buildColumnMap names, fun _ _ h => get?_buildColumnMap names h⟩

/-- a column whose `_name` is `None` gets `f"col{idx}_"` with its own position -/
theorem unnamed_is_colN (names : List (Option Str)) (k : Nat) (h : names[k]? = some none) :
    (accessors names)[k]? = some (colN k) := by
  have hk : k < (accessors names).length := accessors_length names ▸ (List.getElem?_eq_some_iff.mp h).1
  have e := List.getElem?_eq_getElem hk
  obtain ⟨nm, hn, hf⟩ := accessors_get e
  rw [h] at hn; cases hn
  rcases hf with ⟨_, hf⟩ | hf | ⟨b, hf, _⟩
  · rw [e, hf]
  · simp [baseOf] at hf
  · simp [baseOf] at hf

/-- resolution by attribute access: `getattr(t, accessor of column k)` is column `k` -/
theorem getattr_resolves_to_own_index (names : List (Option Str)) (k : Nat) (a : Str)
    (h : (accessors names)[k]? = some a) : resolveAttr names (buildColumnMap names) a = .col k :=
  resolveAttr_own h

/-- resolution as a column key of table item assignment (`t[row, accessor] = x`), of attribute
    assignment (`t.accessor = v`) and of row attribute access (`t[i].accessor`) -/
theorem setitem_key_resolves_to_own_index (names : List (Option Str)) (k : Nat) (a : Str)
    (h : (accessors names)[k]? = some a) :
    resolveSetItem (buildColumnMap names) a = .col k ∧
    resolveSetAttr names (buildColumnMap names) a = .col k ∧
    resolveRow (buildColumnMap names) a = .col k :=
  ⟨resolveSetItem_own h, resolveSetAttr_own h, resolveRow_own h⟩

/-- string indexing by a stored name gives the first column with that stored name -/
theorem string_index_first_occurrence (cols : List (Option Name)) (key : Name) (i : Nat)
    (h : firstOccurrence cols key = some i) :
    stringIndex cols key = some i ∧
    ∃ hi : i < cols.length, sameName cols[i] (some key) = true ∧
      ∀ j (hj : j < i), sameName (cols[j]'(Nat.lt_trans hj hi)) (some key) = false := by
  refine ⟨stringIndex_of_first h, ?_⟩
  unfold firstOccurrence at h
  obtain ⟨hi, hp, hq⟩ := List.findIdx?_eq_some_iff_getElem.mp h
  exact ⟨hi, hp, fun j hj => by simpa using hq j hj⟩

/-- …and a stored name that occurs is always found -/
theorem string_index_finds_stored (cols : List (Option Name)) (key : Name) (h : some key ∈ cols) :
    ∃ i, stringIndex cols key = some i := by
  have hrefl : sameName (some key) (some key) = true := by simp [sameName]
  cases hf : firstOccurrence cols key with
  | some i => exact ⟨i, stringIndex_of_first hf⟩
  | none =>
    unfold firstOccurrence at hf
    have := List.findIdx?_eq_none_iff.mp hf _ h
    rw [hrefl] at this; cases this

/-- the dot row of repr: `_compute_headers`, which recomputes the names independently, yields exactly
    the accessors of the shown columns — for every set of shown columns (wide tables included) -/
theorem repr_dot_row_eq_map (names : List (Option Str)) (shown : List Nat) :
    computeHeaders names shown = shownAccessors names shown := headersFrom_eq 0 [] shown names

-- `h` is not needed: the lookups leave the stored names alone whether or not the cached map is fresh
set_option linter.unusedVariables false in
/-- sanitisation never alters stored names: every lookup path (and attribute replacement) leaves the
    stored names as they are; `rename_column` changes exactly the first column whose stored name matches -/
theorem stored_names_untouched (s : TState) (h : Fresh s) (a : Str) :
    (step s (.getattr a)).1.cols = s.cols ∧ (step s (.row a)).1.cols = s.cols ∧
    (step s (.setitem a)).1.cols = s.cols ∧ (step s (.replace a)).1.cols = s.cols ∧
    (step s .dir).1.cols = s.cols ∧
    ∀ old new, renameFirst old new s.cols =
      (s.cols.findIdx? (fun c => sameName c old)).map (fun i => s.cols.set i new) := by
  have h4 : (step s (.replace a)).1.cols = s.cols := by
    simp only [step]
    split <;> exact fresh_cols s
  exact ⟨fresh_cols s, fresh_cols s, fresh_cols s, h4, rfl, fun old new => renameFirst_eq old new s.cols⟩

/-- history invariant: after ANY sequence of renames, renames through a live view, replacements,
    column additions, `dir()` calls and lookups, a cached map that no wild column invalidates is the
    map of the current names -/
theorem map_fresh (init : List (Option Name)) (ops : List Op) : Fresh (run (mkTable init) ops).1 :=
  run_Fresh (mkTable_Fresh init) ops

/-- …so after any history every advertised accessor still resolves to the column at its own position
    on every lookup path, and `dir` advertises exactly the accessors of the current stored names -/
theorem history_lookup_correct (init : List (Option Name)) (ops : List Op) :
    let s := (run (mkTable init) ops).1
    (step s .dir).2 = .names (accessors s.lowers) ∧
    ∀ k a, (accessors s.lowers)[k]? = some a →
      (step s (.getattr a)).2 = .look (.col k) ∧ (step s (.row a)).2 = .look (.col k) ∧
      (step s (.setitem a)).2 = .look (.col k) ∧ (step s (.replace a)).2 = .look (.col k) ∧
      ∀ new, (step s (.viewAttr a new)).1.cols = s.cols.set k new :=
  ⟨step_dir _, fun _ _ ha => (map_fresh init ops).lookup_own ha⟩

-- non-vacuity, and the documented rules on concrete inputs

private def S (s : String) : Option Str := some s.toList
private def N (i : Nat) (s : String) : Option Name := some ⟨i, s.toList⟩

example : sanitizeCore "column names".toList = some "column_names_".toList := by decide +kernel
example : sanitizeCore "  --a b!!c__ ".toList = some "a_b_c".toList := by decide +kernel
example : sanitizeCore "2nd".toList = some "c2nd".toList := by decide +kernel
example : sanitizeCore "a__1".toList = some "a__1_".toList := by decide +kernel
example : sanitizeCore "sum".toList = some "sum_".toList := by decide +kernel
example : sanitizeCore "_!_".toList = none := by decide
example : (accessors [S "sum", S "sum", S "a", none, S "a", S "a__4", S "", S "col3_"]).map String.ofList
    = ["sum_", "sum__1", "a", "col3_", "a__4", "a__4_", "col6_", "col3"] := by decide +kernel
example : resolveAttr [S "sum", S "sum"] (buildColumnMap [S "sum", S "sum"]) "sum__1".toList = .col 1 := by decide +kernel
example : computeHeaders [S "x", S "y", S "x"] [0, 2] = ["x".toList, "x__2".toList] := by decide +kernel
example : stringIndex [N 1 "b", N 2 "a", N 2 "a"] ⟨2, "a".toList⟩ = some 1 := by decide
example : (run (mkTable [N 1 "a", N 2 "b"]) [.view 0 (N 3 "zz"), .dir, .getattr "zz".toList]).2
    = [.done, .names ["zz".toList, "b".toList], .look (.col 0)] := by decide +kernel
example : reserved.length > 30 := by decide +kernel

end Serif.C17
