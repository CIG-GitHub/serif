/-
  C03 — a vector's reported dtype is always truthful, for every composition of public operations.

  `X.truthful tags dtype`  : every element belongs to the reported dtype (`belongs`: exact kind, the widenings
                             bool→int→float→complex and date→datetime, `object` admits every non-None value,
                             None needs `nullable`).
  `X.step ρ op args`       : one public operation applied to evaluated operands, with the dtype rule the code uses.
  `X.eval ρ e`             : a program (tree of operations over leaves built by inference).
  `ρ : X.Oracle`           : the exact type of every Python scalar result — the theorems hold for every ρ.
-/
import Serif.Proofs.Expr
import Serif.Gen.Consts

namespace Serif.C03
open Serif.X

/-- the dtype `infer_dtype` computes admits every element -/
theorem infer_truthful (ts : List Tag) : truthful ts (some (infer ts)) = true := X.infer_truthful ts

/-- `Vector(values, name=…)` is truthful -/
theorem leaf_truthful (ts : List Tag) (n : Option String) : (mkVec ts none n).truthful = true :=
  mkVec_none_truthful ts n

/-- for every kind except `object` (whose columns the code never validates):
    `validate_scalar(value, dtype)` returns iff the value belongs to the dtype -/
theorem validate_iff_belongs (d : DType) (t : Tag) (h : d.kind ≠ .object) :
    validates d t = true ↔ belongs d t = true := by
  rw [validates_eq_belongs d t h]

/-- arithmetic (vector∘vector, vector∘scalar, vector∘list, reflected, `__radd__`, the `_Date` day arithmetic, the
    mixed-type tuple fallback): the result is truthful whatever the operands and whatever Python computed -/
theorem arith_truthful (ρ : Oracle) (s c : Nat) (op : AOp) (a b r : AVec) (o : Other) :
    (arithVV ρ s c op a b = .ok r → r.truthful = true) ∧ (arithVO ρ s c op a o = .ok r → r.truthful = true) :=
  ⟨fun h => (arithVV_ok h).1, fun h => (arithVO_ok h).1⟩

theorem compare_truthful (ρ : Oracle) (s : Nat) (a b r : AVec) (o : Other) :
    (cmpVV ρ s a b = .ok r → r.truthful = true) ∧ (cmpVO ρ s a o = .ok r → r.truthful = true) :=
  ⟨fun h => (cmpVV_ok h).1, fun h => (cmpVO_ok h).1⟩

theorem unary_truthful (ρ : Oracle) (s : Nat) (a r : AVec) (h : unary ρ s a = .ok r) : r.truthful = true :=
  X.unary_truthful ρ s a r h

theorem concat_truthful (a b r : AVec) (o : Other) :
    (lshiftVV a b = .ok r → r.truthful = true) ∧ (lshiftVO a o = .ok r → r.truthful = true) :=
  ⟨fun h => (lshiftVV_ok h).1, fun h => (lshiftVO_ok h).1⟩

/-- `v[key] = value` (promotion on assignment): every new value is examined, the column is converted and made
    nullable as needed; an `object` column accepts everything and becomes nullable when a None is written -/
theorem setitem_truthful (ups : List (Nat × Tag)) (a r : AVec) (ha : a.truthful = true)
    (h : setitem ups a = .ok r) : r.truthful = true :=
  X.setitem_truthful ups a r ha h

/-- `cast(T)`: declared kind, nullable iff a None was seen; `cast(date)` keeps the calendar day of a datetime -/
theorem cast_truthful (ρ : Oracle) (hρ : CastSound ρ) (s : Nat) (k : Kind) (a r : AVec)
    (h : cast ρ s k a = .ok r) : r.truthful = true :=
  X.cast_truthful ρ hρ s k a r h

theorem fillna_truthful (t : Tag) (a r : AVec) (ha : a.truthful = true) (h : fillna t a = .ok r) :
    r.truthful = true := X.fillna_truthful t a r ha h

theorem dropna_truthful (a r : AVec) (ha : a.truthful = true) (h : dropna a = .ok r) : r.truthful = true :=
  X.dropna_truthful a r ha h

theorem isna_truthful (a : AVec) : (isna a).truthful = true := X.isna_truthful a

/-- `to_object()`: `object`, nullable iff a None is held -/
theorem to_object_truthful (a : AVec) : (toObject a).truthful = true := X.toObject_truthful a

/-- copy, slice, index list, mask (list or vector key), sort: same dtype, elements taken from the vector's own
    (an index list may repeat a position) -/
theorem selection_truthful (a k r : AVec) (ha : a.truthful = true) (idx p : List Nat) (m : List Bool) :
    a.copy.truthful = true ∧ (getIdx idx a = .ok r → r.truthful = true) ∧ (getMask m a = .ok r → r.truthful = true) ∧
    (getV m idx a k = .ok r → r.truthful = true) ∧ (sortV p a = .ok r → r.truthful = true) :=
  ⟨copy_truthful ha, fun h => (getIdx_ok h).truthful ha, fun h => (getMask_ok h).truthful ha,
   fun h => (getV_ok h).truthful ha, fun h => (sortV_ok h).truthful ha⟩

/-- join / aggregate / window / sort / transpose / CSV result columns are built by inference -/
theorem relational_columns_truthful (ρ : Oracle) (o : Obj) :
    (∀ k pairs ls rs, join k pairs ls rs = .ok o → o.truthful = true) ∧
    (∀ s w a rg ng cs, aggregate ρ s w a rg ng cs = .ok o → o.truthful = true) ∧
    (∀ p cs, sortT p cs = .ok o → o.truthful = true) ∧
    (∀ cs, transposeT cs = .ok o → o.truthful = true) ∧
    (∀ hdr rows, csv hdr rows = .ok o → o.truthful = true) :=
  ⟨fun _ _ _ _ h => (join_ok h).1, fun _ _ _ _ _ _ h => (aggregate_ok h).1, fun _ _ h => (sortT_ok h).1,
   fun _ h => (transposeT_ok h).1, fun _ _ h => (csv_ok h).1⟩

/-- every operation of the language, applied to truthful operands, returns a truthful object -/
theorem step_truthful (ρ : Oracle) (hρ : CastSound ρ) (op : Op) (args : List Obj) (o : Obj)
    (hargs : ∀ a ∈ args, a.truthful = true) (h : step ρ op args = .ok o) : o.truthful = true :=
  X.step_truthful ρ hρ op args o hargs h

/-- every value of every program over the public operations is truthful, whatever Python's scalar operations
    return (`ρ`), provided constructors return instances of their class -/
theorem closed (ρ : Oracle) (hρ : CastSound ρ) (e : Expr) (o : Obj) (h : eval ρ e = .ok o) : o.truthful = true :=
  eval_induction ρ (P := fun _ o => o.truthful = true) (Q := fun _ os => ∀ o ∈ os, o.truthful = true)
    (fun op _ os o ih h => X.step_truthful ρ hρ op os o ih h) (by simp)
    (fun _ _ _ _ _ ho hos => List.forall_mem_cons.mpr ⟨ho, hos⟩) e o h

/-- `silent` (an oracle that answers nothing) satisfies the assumption, so `closed` is not vacuous -/
theorem castSound_silent : CastSound silent := by intro s i k x t h; cases h

/-- "writing any element back into its own position is always accepted and never changes the dtype":
    in a truthful vector the assignment returns the very same vector (elements, dtype and name) -/
theorem writeback_noop (a : AVec) (ha : a.truthful = true) (i : Nat) (hi : i < a.tags.length) :
    setitem [(i, a.tags[i])] a = .ok a := by
  rw [setitem_of_belongs (by simpa using hi)]
  · simp [writeAll]
  · intro d hd v hv
    rw [List.map_singleton, List.mem_singleton] at hv
    exact hv ▸ (AVec.truthful_iff hd).mp ha _ (List.getElem_mem hi)

/-! #### tie to the source: tables regenerated from /repo on this run -/

/-- `_PROMOTABLE` is the model's `promotable` (all pairs of the 15 tabulated classes) -/
theorem promotable_table_agrees :
    ∀ a ∈ List.range 16, ∀ b ∈ List.range 16,
      promotable (Kind.ofCode a) (Kind.ofCode b) = Gen.promotablePairs.contains (a, b) := by decide +kernel

/-- `Vector._promote`, executed on one column per kind, converts exactly where the model's `promoteVec` does -/
theorem promoteVec_table_agrees :
    ∀ e ∈ Gen.promoteVecTable, (promoteVec (Kind.ofCode e.1) (Kind.ofCode e.2.1)).map Kind.code = e.2.2 := by
  decide +kernel

-- a program with promotion on assignment (int → float, then nullable) followed by a fill
example :
    eval silent (.node (.fillna (.ty .float))
      (.cons (.node (.setitem [(0, .ty .float), (1, .none)])
        (.cons (.node (.leaf [.ty .int, .ty .int, .ty .bool] (some "a")) .nil) .nil)) .nil))
    = .ok (.vec ⟨[.ty .float, .ty .float, .ty .float], some ⟨.float, false⟩, some "a"⟩) := by rfl
example :
    eval silent (.node (.setitem [(0, .ty .float), (1, .none)])
        (.cons (.node (.leaf [.ty .int, .ty .int, .ty .bool] none) .nil) .nil))
    = .ok (.vec ⟨[.ty .float, .none, .ty .float], some ⟨.float, true⟩, none⟩) := by rfl
example : truthful [.ty .int, .ty .bool, .none] (some ⟨.float, true⟩) = true := by decide
example : truthful [.ty .float] (some ⟨.int, false⟩) = false := by decide
-- regression programs for /repo commits cbd2cdb, bd89f49, cca3c72 (`to_object` with None, `cast(date)` of a datetime, None written
-- into an `object` column)
example :
    eval silent (.node .toObject (.cons (.node (.leaf [.ty .int, .none] none) .nil) .nil))
    = .ok (.vec ⟨[.ty .int, .none], some ⟨.object, true⟩, none⟩) := by rfl
example :
    eval silent (.node (.cast .date 0) (.cons (.node (.leaf [.ty .datetime] none) .nil) .nil))
    = .ok (.vec ⟨[.ty .date], some ⟨.date, false⟩, none⟩) := by rfl
example :
    eval silent (.node (.setitem [(0, .none)]) (.cons (.node (.leaf [.ty .int, .ty .str] none) .nil) .nil))
    = .ok (.vec ⟨[.none, .ty .str], some ⟨.object, true⟩, none⟩) := by rfl
example : Gen.promotablePairs.length = 4 := by decide

end Serif.C03
