/-
  C05 — elementwise operations equal the Python scalar operation, shape preserved.

  Every statement holds for every element type and for EVERY scalar semantics (`op`, `f`, `S.py`,
  `S.days` are arbitrary functions that may raise): the theorems are about what serif does around
  the scalar operation - strict zipping, operand order, None guards, branch selection.
-/
import Serif.Proofs.Vec

namespace Serif.C05
open Serif.Vec

variable {α β γ : Type}

/-- the result of `v <op> other` has the length of `v`, for each operand form -/
theorem length_preserved {op : α → β → Res γ} {xs : Col α} {o : Operand β} {r : Col γ}
    (h : elementwise op xs o = .ok r) : r.length = xs.length :=
  apply_ok_length h

/-- … for all seven operators, direct and reflected (`__radd__`, `__rmul__`, the `_reverse_*`
    wrappers) and for `_Date.__add__` -/
theorem length_preserved_vector {S : Sem α} {o : BinOp} {refl : Bool} {v : Vec α} {other : Operand α}
    {r : Col α} (h : vectorBinary S o refl v other = .ok r) : r.length = v.data.length := by
  rw [vectorBinary_eq_apply] at h
  exact apply_ok_length h

/-- unary operators, broadcast methods and properties keep the length -/
theorem length_preserved_broadcast {f : α → Res β} {xs : Col α} {r : Col β}
    (h : broadcast f xs = .ok r) : r.length = xs.length :=
  mapRes_ok_length h

/-- forms 1-3 (`v op vector`, `v op list`, `v op scalar`): element `i` of the result is
    `op xs[i] other[i]`, `None` if either is `None` -/
theorem pointwise {op : α → β → Res γ} {xs : Col α} {o : Operand β} {r : Col γ}
    (h : elementwise op xs o = .ok r) {i : Nat} {x : Option α} (hx : xs[i]? = some x) :
    ∃ y c, o.get? i = some y ∧ r[i]? = some c ∧ IsCellOf op x y c :=
  let ⟨y, c, hy, hr, hc⟩ := apply_ok_getElem? h hx
  ⟨y, c, hy, hr, cell_ok_iff.mp hc⟩

/-- form 1 spelled out: another vector -/
theorem pointwise_vector {op : α → β → Res γ} {xs : Col α} {ys : Col β} {dt : Option DType}
    {r : Col γ} (h : elementwise op xs (.vec ys dt) = .ok r) {i : Nat} {x : Option α}
    (hx : xs[i]? = some x) : ∃ y c, ys[i]? = some y ∧ r[i]? = some c ∧ IsCellOf op x y c :=
  pointwise h hx

/-- form 2 spelled out: a plain sequence -/
theorem pointwise_list {op : α → β → Res γ} {xs : Col α} {ys : Col β} {r : Col γ}
    (h : elementwise op xs (.seq ys) = .ok r) {i : Nat} {x : Option α} (hx : xs[i]? = some x) :
    ∃ y c, ys[i]? = some y ∧ r[i]? = some c ∧ IsCellOf op x y c :=
  pointwise h hx

/-- form 3 spelled out: a scalar meets every element -/
theorem pointwise_scalar {op : α → β → Res γ} {xs : Col α} {s : β} {r : Col γ}
    (h : elementwise op xs (.scalar s) = .ok r) {i : Nat} {x : Option α} (hx : xs[i]? = some x) :
    ∃ c, r[i]? = some c ∧ IsCellOf op x (some s) c := by
  obtain ⟨y, c, hy, hr, hc⟩ := pointwise h hx
  cases hy
  exact ⟨c, hr, hc⟩

/-- forms 4-5 (`scalar op v`, `list op v`) for `-  /  //  %  **`: element `i` is
    `other[i] op xs[i]` - the OTHER operand on the left -/
theorem pointwise_reflected {op : β → α → Res γ} {xs : Col α} {o : Operand β} {r : Col γ}
    (h : relementwise op xs o = .ok r) {i : Nat} {x : Option α} (hx : xs[i]? = some x) :
    ∃ y c, o.get? i = some y ∧ r[i]? = some c ∧ IsCellOf op y x c := by
  rw [relementwise_eq_apply] at h
  obtain ⟨y, c, hy, hr, hc⟩ := apply_ok_getElem? h hx
  exact ⟨y, c, hy, hr, cell_ok_iff.mp hc⟩

/-- forms 4-5 for `+` (`__radd__` has its own loops): element `i` is `other[i] + xs[i]` -/
theorem pointwise_radd {add : β → α → Res γ} {xs : Col α} {o : Operand β} {r : Col γ}
    (h : radd add xs o = .ok r) {i : Nat} {x : Option α} (hx : xs[i]? = some x) :
    ∃ y c, o.get? i = some y ∧ r[i]? = some c ∧ IsCellOf add y x c := by
  rw [radd_eq_apply] at h
  obtain ⟨y, c, hy, hr, hc⟩ := apply_ok_getElem? h hx
  exact ⟨y, c, hy, hr, cell_ok_iff.mp hc⟩

/-- all seven operators in all five forms at once.  `refl = false`: `xs[i] <o> other[i]`;
    `refl = true`: `other[i] <o> xs[i]` — for `*` too, whatever the elements' multiplication does (it need not commute) -/
theorem pointwise_binary {py : BinOp → α → α → Res α} {o : BinOp} {refl : Bool} {xs : Col α}
    {other : Operand α} {r : Col α}
    (h : binary py o refl xs other = .ok r) {i : Nat} {x : Option α} (hx : xs[i]? = some x) :
    ∃ y c, other.get? i = some y ∧ r[i]? = some c ∧
      (if refl then IsCellOf (py o) y x c else IsCellOf (py o) x y c) := by
  rw [binary_eq_apply py o refl] at h
  obtain ⟨y, c, hy, hr, hc⟩ := apply_ok_getElem? h hx
  exact ⟨y, c, hy, hr, cell_written_ok_iff.mp hc⟩

/-- … including the class dispatch: on a date vector `+` adds days for an int-kind vector or an
    int scalar (`scalarOpOf` names the scalar operation that applies), everything else as above -/
theorem pointwise_any_vector {S : Sem α} {o : BinOp} {refl : Bool} {v : Vec α} {other : Operand α}
    {r : Col α}
    (h : vectorBinary S o refl v other = .ok r) {i : Nat} {x : Option α} (hx : v.data[i]? = some x) :
    ∃ y c, other.get? i = some y ∧ r[i]? = some c ∧
      (if refl then IsCellOf (scalarOpOf S o refl v other) y x c
       else IsCellOf (scalarOpOf S o refl v other) x y c) := by
  rw [vectorBinary_eq_apply S o refl v other] at h
  obtain ⟨y, c, hy, hr, hc⟩ := apply_ok_getElem? h hx
  exact ⟨y, c, hy, hr, cell_written_ok_iff.mp hc⟩

/-- a vector or sequence operand of another length is an error -/
theorem length_mismatch_errors {op : α → β → Res γ} {xs : Col α} {o : Operand β} {n : Nat}
    (hn : o.len? = some n) (h : xs.length ≠ n) : ∃ e, elementwise op xs o = .error e :=
  ⟨.value, apply_mismatch hn h⟩

/-- … for all seven operators, direct and reflected, and for `_Date.__add__` -/
theorem length_mismatch_errors_vector {S : Sem α} {o : BinOp} {refl : Bool} {v : Vec α}
    {other : Operand α} {n : Nat} (hn : other.len? = some n) (h : v.data.length ≠ n) :
    ∃ e, vectorBinary S o refl v other = .error e := by
  rw [vectorBinary_eq_apply]
  exact ⟨.value, apply_mismatch hn h⟩

/-- conversely a returned result proves the lengths were equal (the zip is strict) -/
theorem result_implies_equal_length {S : Sem α} {o : BinOp} {refl : Bool} {v : Vec α}
    {other : Operand α} {r : Col α} (h : vectorBinary S o refl v other = .ok r) {n : Nat}
    (hn : other.len? = some n) : v.data.length = n := by
  rcases Nat.decEq v.data.length n with hne | heq
  · obtain ⟨e, he⟩ := length_mismatch_errors_vector (S := S) (o := o) (refl := refl) hn hne
    rw [he] at h; cases h
  · exact heq

/-- no spurious refusals: equal lengths and every evaluated pair defined ⇒ a result is returned -/
theorem defined_when_python_defines {op : α → β → Res γ} {xs : Col α} {o : Operand β}
    (hlen : ∀ n, o.len? = some n → xs.length = n)
    (hdef : ∀ (i : Nat) (a : α) (b : β), xs[i]? = some (some a) → o.get? i = some (some b) →
      ∃ c, op a b = .ok c) :
    ∃ r, elementwise op xs o = .ok r := by
  apply apply_total hlen
  intro i x y hx hy
  cases x with
  | none => exact ⟨none, cell_none_of (.inl rfl)⟩
  | some a =>
    cases y with
    | none => exact ⟨none, rfl⟩
    | some b =>
      obtain ⟨c, hc⟩ := hdef i a b hx hy
      exact ⟨some c, cell_ok_iff.mpr ⟨c, hc, rfl⟩⟩

/-- `table <o> scalar` (any non-Table operand): one result column per column, each the vector
    operation on that column -/
theorem table_is_columnwise {S : Sem α} {o : BinOp} {cols : List (Vec α)} {other : Operand α}
    {R : List (Col α)} (h : tableScalar S o cols other = .ok R) :
    R.length = cols.length ∧
    ∀ (j : Nat) (c : Vec α), cols[j]? = some c →
      ∃ rc, R[j]? = some rc ∧ vectorBinary S o false c other = .ok rc :=
  mapRes_ok_pointwise h

/-- `scalar <o> table` (scalar, list or tuple on the left): one result column per column, each the *reflected* vector
    operation on that column — the same shape and column order as `table <o> scalar` -/
theorem table_reflected_is_columnwise {S : Sem α} {o : BinOp} {cols : List (Vec α)} {other : Operand α}
    {R : List (Col α)} (h : tableScalarRefl S o cols other = .ok R) :
    R.length = cols.length ∧
    ∀ (j : Nat) (c : Vec α), cols[j]? = some c →
      ∃ rc, R[j]? = some rc ∧ vectorBinary S o true c other = .ok rc :=
  mapRes_ok_pointwise h

/-- `-table`, `+table`, `abs(table)`: one result column per column, each the unary operation broadcast over that column —
    shape kept, nothing transposed -/
theorem table_unary_is_columnwise {β : Type} {f : α → Res β} {cols : List (Vec α)} {R : List (Col β)}
    (h : tableUnary f cols = .ok R) :
    R.length = cols.length ∧
    ∀ (j : Nat) (c : Vec α), cols[j]? = some c →
      ∃ rc, R[j]? = some rc ∧ broadcast f c.data = .ok rc ∧ rc.length = c.data.length := by
  refine ⟨mapRes_ok_length h, fun j c hc => ?_⟩
  obtain ⟨rc, h1, h2⟩ := mapRes_ok_getElem? h hc
  exact ⟨rc, h2, h1, length_preserved_broadcast h1⟩

/-- `table <o> table`: equal widths, and column `j` is `left[j] <o> right[j]` -/
theorem table_table_is_columnwise {S : Sem α} {o : BinOp} {a b : List (Vec α)} {R : List (Col α)}
    (h : tableTable S o a b = .ok R) :
    a.length = b.length ∧ R.length = a.length ∧
    ∀ (j : Nat) (ca cb : Vec α), a[j]? = some ca → b[j]? = some cb →
      ∃ rc, R[j]? = some rc ∧ vectorBinary S o false ca (.vec cb.data cb.dtype) = .ok rc := by
  unfold tableTable at h
  split at h
  · cases h
  · rename_i hw
    have hw : a.length = b.length := by simpa using hw
    obtain ⟨hlen, hcol⟩ := mapRes_ok_pointwise h
    refine ⟨hw, ?_, fun j ca cb hca hcb => hcol j (ca, cb) (List.getElem?_zip_eq_some.mpr ⟨hca, hcb⟩)⟩
    rw [hlen, List.length_zip, ← hw, Nat.min_self]

/-- tables of different widths are refused -/
theorem table_width_mismatch_errors {S : Sem α} {o : BinOp} {a b : List (Vec α)}
    (h : a.length ≠ b.length) : tableTable S o a b = .error .value :=
  if_pos h

/-- cell (j, i) of `table <o> other` is the scalar operation on cell (j, i) and `other[i]` -/
theorem table_cellwise {S : Sem α} {o : BinOp} {cols : List (Vec α)} {other : Operand α}
    {R : List (Col α)} (h : tableScalar S o cols other = .ok R)
    {j i : Nat} {c : Vec α} {x : Option α} (hc : cols[j]? = some c) (hx : c.data[i]? = some x) :
    ∃ rc y v, R[j]? = some rc ∧ other.get? i = some y ∧ rc[i]? = some v ∧
      IsCellOf (scalarOpOf S o false c other) x y v := by
  obtain ⟨rc, hrc, hv⟩ := (table_is_columnwise h).2 j c hc
  obtain ⟨y, v, hy, hr, hcell⟩ := pointwise_any_vector hv hx
  exact ⟨rc, y, v, hrc, hy, hr, by simpa using hcell⟩

/-- element `i` of `-v`, `v.upper()`, `dates.year`, … is `f` of element `i`; None stays None -/
theorem broadcast_pointwise {f : α → Res β} {xs : Col α} {r : Col β} (h : broadcast f xs = .ok r)
    (i : Nat) :
    (xs[i]? = some none → r[i]? = some none) ∧
    (∀ a, xs[i]? = some (some a) → ∃ b, f a = .ok b ∧ r[i]? = some (some b)) := by
  constructor
  · intro hx
    obtain ⟨c, hc, hr⟩ := mapRes_ok_getElem? h hx
    cases hc
    exact hr
  · intro a hx
    obtain ⟨c, hc, hr⟩ := mapRes_ok_getElem? h hx
    obtain ⟨b, hb, rfl⟩ := cell1_some_ok_iff.mp hc
    exact ⟨b, hb, hr⟩

/-- whenever the method is defined on every non-None element, the broadcast returns
    `[None if x is None else g(x) for x in v]` -/
theorem broadcast_eq_map {f : α → Res β} (g : α → β) {xs : Col α}
    (h : ∀ a, some a ∈ xs → f a = .ok (g a)) : broadcast f xs = .ok (xs.map (Option.map g)) := by
  apply mapRes_eq_ok_map
  intro x hx
  cases x with
  | none => rfl
  | some a => exact cell1_some_ok_iff.mpr ⟨g a, h a hx, rfl⟩

/-- None never reaches the method -/
theorem broadcast_all_none (f : α → Res β) (n : Nat) :
    broadcast f (List.replicate n none) = .ok (List.replicate n none) := by
  induction n with
  | zero => rfl
  | succ n ih =>
    unfold broadcast at ih ⊢
    simp only [List.replicate_succ, mapRes, cell1, ih]

/-- the model's run is always an acceptable observation for the written-order requirement -/
theorem model_conforms (py : BinOp → α → α → Res α) (o : BinOp) (refl : Bool) [DecidableEq α]
    (xs : Col α)
    (other : Operand α) :
    conforms (specBinary (py o) refl xs other) (outcome (binary py o refl xs other)) = true := by
  rw [binary_eq_apply py o refl]
  exact conforms_apply _ xs other

/-- the same with the class dispatch of date vectors -/
theorem vector_model_conforms (S : Sem α) (o : BinOp) (refl : Bool) [DecidableEq α] (v : Vec α)
    (other : Operand α)
 :
    conforms (specBinary (scalarOpOf S o refl v other) refl v.data other)
      (outcome (vectorBinary S o refl v other)) = true := by
  rw [vectorBinary_eq_apply S o refl v other]
  exact conforms_apply _ v.data other

/-- where Python defines every position, the judge accepts exactly one observation: the vector
    of those values (in particular it rejects an error, a shorter and a longer result) -/
theorem judge_exact [DecidableEq γ] (vals : List γ) (impl : Option (List γ)) :
    conforms (some (vals.map Except.ok)) impl = true ↔ impl = some vals :=
  conformsCells_total vals impl

/-- on a length mismatch the judge accepts exactly "raised" -/
theorem judge_mismatch [DecidableEq γ] (impl : Option (List γ)) :
    conforms (none : Option (List (Res γ))) impl = true ↔ impl = none := by
  cases impl <;> simp [conforms]

/-- the broadcast model is an acceptable observation of "f of element i, None stays None" -/
theorem broadcast_conforms [DecidableEq β] (f : α → Res β) (xs : Col α) :
    conformsCells (xs.map (cell1 f)) (outcome (broadcast f xs)) = true := by
  have := conformsCells_seq (xs.map (cell1 f))
  rwa [mapRes_map] at this

/-- the table model is an acceptable observation of the column-by-column requirement
    (`table <o> scalar`): every column conforms, and the call raises only if some column does -/
theorem table_model_conforms (S : Sem α) (o : BinOp) [DecidableEq α] (cols : List (Vec α))
    (other : Operand α) :
    conformsTable (specTableScalar S o cols other) (outcome (tableScalar S o cols other)) = true := by
  unfold specTableScalar tableScalar
  apply conformsTable_mapRes
  intro c _
  exact vector_model_conforms S o false c other

/-- the same for `table <o> table`; tables of different width must raise and the model does -/
theorem table_table_model_conforms (S : Sem α) (o : BinOp) [DecidableEq α] (a b : List (Vec α)) :
    conformsTable (specTableTable S o a b) (outcome (tableTable S o a b)) = true := by
  unfold specTableTable tableTable
  by_cases hw : a.length = b.length
  · rw [if_pos hw, if_neg (by simpa using hw)]
    apply conformsTable_mapRes (spec := fun p : Vec α × Vec α =>
      specBinary (scalarOpOf S o false p.1 (.vec p.2.data p.2.dtype)) false p.1.data (.vec p.2.data p.2.dtype))
    intro p _
    exact vector_model_conforms S o false p.1 _
  · rw [if_neg hw, if_pos hw]; rfl

section examples
private def sub' : Nat → Nat → Res Nat := fun a b => if b ≤ a then .ok (a - b) else .error .other
private def S' : Sem Nat :=
  { py := fun o a b => match o with
                       | .sub => sub' a b
                       | .mul => .ok (a * b)
                       | _ => .ok (a + b),
    days := fun d n => .ok (d + 1000 * n), isInt := fun n => n < 100 }

-- the five operand forms, with None on either side; operand order visible through `-`
example : elementwise sub' [some 9, none, some 7] (.vec [some 1, some 2, none] none) = .ok [some 8, none, none] := by decide
example : elementwise sub' [some 9, none] (.seq [some 1, some 2]) = .ok [some 8, none] := by decide
example : elementwise sub' [some 9, none] (.scalar 4) = .ok [some 5, none] := by decide
example : relementwise sub' [some 3, none] (.scalar 10) = .ok [some 7, none] := by decide
example : relementwise sub' [some 3, some 4] (.seq [some 10, some 20]) = .ok [some 7, some 16] := by decide
example : radd sub' [some 3, some 4] (.seq [some 10, some 20]) = .ok [some 7, some 16] := by decide
-- reflected `*` with a multiplication that does NOT commute (`a * b := 10 * a + b`): `other * element`, the written order
example : binary (fun _ a b => .ok (10 * a + b)) .mul true [some 3, none] (.scalar 7) = .ok [some 73, none] := by decide
example : binary (fun _ a b => .ok (10 * a + b)) .mul false [some 3, none] (.scalar 7) = .ok [some 37, none] := by decide
example : binary (fun _ a b => .ok (10 * a + b)) .mul true [some 3, some 4] (.seq [some 7, some 8]) = .ok [some 73, some 84] := by decide
-- lengths that differ raise, also for a length-1 operand (no broadcasting) and for the empty vector
example : elementwise sub' [some 9, some 8] (.seq [some 1]) = .error .value := by decide
example : elementwise sub' [] (.vec [some 1] none) = .error .value := by decide
example : binary S'.py .sub true [some 1, some 2] (.seq [some 5, some 6, some 7]) = .error .value := by decide
-- a pair for which the scalar operation raises makes the call raise
example : elementwise sub' [some 1] (.scalar 4) = .error .other := by decide
-- date + int days (vector of int kind / int scalar) versus Python's own `+`
example : vectorBinary S' .add false ⟨[some 500, none], some ⟨.date, true⟩⟩ (.scalar 3) = .ok [some 3500, none] := by decide
example : vectorBinary S' .add false ⟨[some 500], some ⟨.date, false⟩⟩ (.vec [some 2] (some ⟨.int, false⟩)) = .ok [some 2500] := by decide
example : vectorBinary S' .add false ⟨[some 500], some ⟨.date, false⟩⟩ (.seq [some 2]) = .ok [some 502] := by decide
-- an empty date vector plus an untyped empty vector is the empty vector (/repo 31a39a6)
example : vectorBinary S' .add false ⟨[], some ⟨.date, false⟩⟩ (.vec [] none) = .ok [] := by decide
example : tableScalar S' .sub [⟨[some 5, none], none⟩, ⟨[some 9, some 8], none⟩] (.scalar 2)
    = .ok [[some 3, none], [some 7, some 6]] := by decide
example : tableTable S' .sub [⟨[some 5], none⟩] [⟨[some 1], none⟩, ⟨[some 2], none⟩] = .error .value := by decide
example : broadcast (fun n : Nat => if n = 0 then .error .value else .ok (n + 1)) [some 1, none, some 2]
    = .ok [some 2, none, some 3] := by decide
-- the judge: accepts the right vector, rejects truncation, a wrong element, and an error
example : conforms (specBinary sub' false [some 9, none] (.seq [some 1, some 2])) (some [some 8, none]) = true := by decide
example : conforms (specBinary sub' false [some 9, none] (.seq [some 1, some 2])) (some [some 8]) = false := by decide
example : conforms (specBinary sub' true [some 9, none] (.seq [some 10, some 2])) (some [some 8, none]) = false := by decide
example : conforms (specBinary sub' false [some 9, none] (.seq [some 1, some 2])) none = false := by decide
example : conforms (specBinary sub' false [some 9, none] (.seq [some 1])) (some [some 8]) = false := by decide
example : conforms (specBinary sub' false [some 9, none] (.seq [some 1])) none = true := by decide
end examples

end Serif.C05
