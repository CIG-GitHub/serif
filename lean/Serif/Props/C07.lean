/-
  C07 — masks and indexing follow Python sequence semantics and compose.
  All statements are about the definitions of Serif/Model/Index.lean that the driver executes.
-/
import Serif.Proofs.Index
import Serif.Gen.Consts

namespace Serif.C07
open Serif.Index

variable {ν α β : Type}

/-! #### `v[i]` is the i-th element (Python subscripts: negative from the end, else IndexError) -/

theorem getitem_int (v : Vec ν α) (k : Nat) (h : k < v.data.length) :
    getitem v (.int k) = .ok (.scalar v.data[k]) := by
  simp only [getitem]
  rw [getIdx_of_norm (normIndex_nat h)]; rfl

theorem getitem_int_neg (v : Vec ν α) (k : Nat) (h1 : 1 ≤ k) (h : k ≤ v.data.length) :
    getitem v (.int (-(k : Int))) = .ok (.scalar (v.data[v.data.length - k]'(by omega))) := by
  simp only [getitem]
  rw [getIdx_of_norm (normIndex_neg h1 h)]; rfl

theorem getitem_int_out_of_range (v : Vec ν α) (i : Int)
    (h : (v.data.length : Int) ≤ i ∨ i < -(v.data.length : Int)) :
    getitem v (.int i) = .error .index := by
  simp only [getitem]
  rw [getIdx_of_norm_error (normIndex_out_of_range h)]; rfl

/-- `v[s]` holds exactly the elements at the positions `sliceIndices` (CPython's `slice.indices` + `range`),
    in that order, under the same name and dtype; it raises iff the step is 0 -/
theorem getitem_slice_eq_list_slice (v : Vec ν α) (s : Slice) :
    getitem v (.slice s)
      = rmap (fun idxs => .vec { data := gather v.data idxs, dtype := v.dtype, name := v.name })
          (sliceIndices v.data.length s) :=
  getitem_sel v (.slice s) rfl

/-- what the selected positions are, for every start/stop/step: position `j` of the result is
    `start' + j·step` (normalised start), all of them inside `0..n-1`, and there are exactly as many as
    stay strictly before `stop'` in the direction of the step — empty, reversed and out-of-range
    slices included -/
theorem slice_positions {n : Nat} {s : Slice} {a b c : Int} {idxs : List Nat}
    (ht : sliceTriple n s = .ok (a, b, c)) (hi : sliceIndices n s = .ok idxs) :
    c ≠ 0 ∧
    (∀ j : Nat, j < idxs.length ↔ (if 0 < c then a + j * c < b else b < a + j * c)) ∧
    (∀ j : Nat, j < idxs.length → 0 ≤ a + j * c ∧ a + j * c < n ∧ idxs[j]? = some (a + j * c).toNat) := by
  rw [sliceIndices_eq ht] at hi
  cases hi
  simp only [List.length_map, List.length_range]
  have hc := (sliceTriple_bounds ht).1
  refine ⟨hc, rangeLen_lt_iff a b hc, fun j hj => ⟨(sliceTriple_pos_lt ht hj).1, (sliceTriple_pos_lt ht hj).2, ?_⟩⟩
  rw [List.getElem?_map, List.getElem?_range hj]; rfl

/-- the contents of a slice, the companion of `slice_positions` -/
theorem slice_values (v : Vec ν α) (s : Slice) (idxs : List Nat) (hi : sliceIndices v.data.length s = .ok idxs) :
    ∃ r, getitem v (.slice s) = .ok (.vec r) ∧ r.name = v.name ∧ r.dtype = v.dtype ∧
      r.data.length = idxs.length ∧ ∀ j : Nat, r.data[j]? = idxs[j]?.bind (v.data[·]?) := by
  refine ⟨{ data := gather v.data idxs, dtype := v.dtype, name := v.name }, ?_, rfl, rfl, ?_, ?_⟩
  · rw [getitem_slice_eq_list_slice, hi]
    rfl
  · exact gather_length _ _ (sliceIndices_lt hi)
  · exact gather_getElem? _ _ (sliceIndices_lt hi)

/-- a zero step is rejected, everything else is answered -/
theorem slice_error_iff (v : Vec ν α) (s : Slice) :
    (∃ e, getitem v (.slice s) = .error e) ↔ s.step = some 0 := by
  rw [getitem_slice_eq_list_slice, ← sliceTriple_eq_error_iff (n := v.data.length)]
  unfold sliceIndices
  cases sliceTriple v.data.length s with
  | error e => simp [rmap]
  | ok t =>
    obtain ⟨a, b, c⟩ := t
    simp [rmap]

/-- `typeutils.slice_length(s, n)` is the number of positions the slice selects (what `__setitem__` relies on) -/
theorem slice_length_correct (n : Nat) (s : Slice) :
    sliceLength n s = rmap List.length (sliceIndices n s) := by
  rw [sliceLength_eq_count, sliceIndices_length]

/-- tie to the source: `typeutils.slice_length`, executed by the extractor on this run over every slice with
    members in {None,-3,-1,0,1,2,4}, steps in {None,±1,±2,0} and n ≤ 3, is the model's `sliceLength`
    (whole finite table, in the kernel) -/
theorem slice_length_table_agrees : ∀ e ∈ Gen.sliceLengthTable, sliceLengthRowOk e = true := by decide +kernel

/-- the table was really extracted (an empty table would make the previous statement vacuous) -/
theorem slice_length_table_complete : Gen.sliceLengthTable.length = 1176 := by decide +kernel

/-- `v[a:b]` is `drop a` then `take (b - a)`, for all natural `a`, `b` (beyond the end, `b < a`, `a = b` included) -/
theorem slice_step_one (v : Vec ν α) (a b : Nat) :
    getitem v (.slice ⟨some a, some b, none⟩)
      = .ok (.vec { data := (v.data.drop a).take (b - a), dtype := v.dtype, name := v.name }) := by
  have ht : sliceTriple v.data.length ⟨some a, some b, none⟩
      = .ok (((min a v.data.length : Nat) : Int), ((min b v.data.length : Nat) : Int), 1) := by
    simp [sliceTriple, clamp_nat]
  -- the positions are `p, p + 1, …` up to `q`, for the clamped bounds `p`, `q`
  have hi : sliceIndices v.data.length ⟨some a, some b, none⟩
      = .ok (List.range' (min a v.data.length) (min b v.data.length - min a v.data.length)) := by
    rw [sliceIndices_eq ht, rangeLen_one, List.range'_eq_map_range, Int.toNat_sub]
    congr 1
    apply List.map_congr_left
    intro j _
    rw [Int.mul_one, ← Int.natCast_add, Int.toNat_natCast]
  simp only [getitem, hi, gather_range']
  rw [List.take_drop_min_length]
  rfl

/-- `v[::-1]` is the reversed vector -/
theorem slice_reverse (v : Vec ν α) :
    getitem v (.slice ⟨none, none, some (-1)⟩)
      = .ok (.vec { data := v.data.reverse, dtype := v.dtype, name := v.name }) := by
  have ht : sliceTriple v.data.length ⟨none, none, some (-1)⟩ = .ok ((v.data.length : Int) - 1, -1, -1) := by
    simp [sliceTriple]
  have hi : sliceIndices v.data.length ⟨none, none, some (-1)⟩ = .ok (List.range' 0 v.data.length).reverse := by
    rw [sliceIndices_eq ht, rangeLen_neg_one, List.reverse_range', Int.sub_neg, Int.sub_add_cancel, Int.toNat_natCast]
    congr 1
    apply List.map_congr_left
    intro j hj
    have := List.mem_range.mp hj
    omega
  simp only [getitem, hi]
  rw [gather_reverse, gather_range', List.drop_zero, List.take_length]
  rfl

/-- a boolean list of the right length keeps exactly the positions holding `True`, in order,
    under the same name and dtype -/
theorem getitem_mask_eq_filter (v : Vec ν α) (ms : List Bool) (hne : ms ≠ []) (hl : v.data.length = ms.length) :
    getitem v (.list (ms.map .bool))
      = .ok (.vec { data := ((v.data.zip ms).filter (·.2)).map (·.1), dtype := v.dtype, name := v.name }) := by
  rw [getitem_boolList v ms hne, maskGet_of_length hl, maskSel_eq_filter]; rfl

/-- the same for a non-nullable boolean Vector used as mask (the empty mask included) -/
theorem getitem_maskvec_eq_filter (v : Vec ν α) (ms : List Bool) (hl : v.data.length = ms.length) :
    getitem v (.vec (some ⟨.bool, false⟩) (ms.map .bool))
      = .ok (.vec { data := ((v.data.zip ms).filter (·.2)).map (·.1), dtype := v.dtype, name := v.name }) := by
  rw [getitem_boolVec, maskGet_of_length hl, maskSel_eq_filter]; rfl

/-- a mask of the wrong length is an error, as list and as Vector -/
theorem getitem_mask_wrong_length (v : Vec ν α) (ms : List Bool) (hl : v.data.length ≠ ms.length) :
    (ms ≠ [] → getitem v (.list (ms.map .bool)) = .error .value) ∧
    getitem v (.vec (some ⟨.bool, false⟩) (ms.map .bool)) = .error .value := by
  constructor
  · intro hne
    rw [getitem_boolList v ms hne, maskGet_length_ne hl]
  · rw [getitem_boolVec, maskGet_length_ne hl]

/-- an integer list `v[[i₁, i₂, …]]` is `[v[i₁], v[i₂], …]` (Python subscripts, in key order, repeats allowed),
    under the same name and dtype; one subscript out of range makes it an error -/
theorem getitem_ints_eq_map (v : Vec ν α) (is : List Int) (hne : is ≠ []) :
    getitem v (.list (is.map .int))
      = rmap (fun xs => .vec { data := xs, dtype := v.dtype, name := v.name }) (mapRes (getIdx v.data) is) := by
  have hb : ¬ (is.map KElem.int ≠ [] ∧ (is.map KElem.int).all KElem.isBool = true) := by
    cases is with
    | nil => exact absurd rfl hne
    | cons i is => simp [KElem.isBool]
  have hi : (is.map KElem.int).all KElem.isInt = true := by
    simp only [List.all_map, List.all_eq_true]
    intro _ _
    rfl
  have hm : mapRes (elemGet v.data) (is.map KElem.int) = mapRes (getIdx v.data) is := mapRes_map _ _ is
  simp only [getitem]
  rw [if_neg hb, if_pos ⟨by simpa using hne, hi⟩, intsGet, hm]
  rfl

/-- masking never reorders or invents elements -/
theorem mask_sublist (xs : List α) (ms : List Bool) : (((xs.zip ms).filter (·.2)).map (·.1)).Sublist xs := by
  rw [← maskSel_eq_filter]; exact maskSel_sublist xs ms

/-- every selecting key (slice, mask, integer list/Vector) returns the elements at a list of positions that
    depends only on the key and the length — never on the elements — and keeps name and dtype -/
theorem getitem_positions_only (v : Vec ν α) (k : Key) (hk : k.isSel = true) :
    selVec v k = rmap (fun idxs => { data := gather v.data idxs, dtype := v.dtype, name := v.name })
      (selIndices v.data.length k) ∧
    ∀ idxs, selIndices v.data.length k = .ok idxs → ∀ i ∈ idxs, i < v.data.length :=
  ⟨selVec_eq_gather v k hk, fun _ h => selIndices_lt h⟩

/-- list / tuple operands take the same path as Vector operands -/
theorem compare_iter_eq_vec (cmp : α → β → Res Bool) (xs : List (Option α)) (ys : List (Option β)) :
    (Index.compare cmp xs (.iter ys) : Res (Vec ν Bool)) = Index.compare cmp xs (.vec ys) := rfl

/-- whatever is returned is a non-nullable bool vector of the operand's length -/
theorem compare_result_nonnullable_bool (cmp : α → β → Res Bool) (xs : List (Option α)) (o : Operand β)
    (r : Vec ν Bool) (h : Index.compare cmp xs o = .ok r) :
    r.dtype = some ⟨.bool, false⟩ ∧ r.data.length = xs.length := by
  cases o with
  | vec ys => obtain ⟨hl, bs, hz, rfl⟩ := compare_vec_ok h; exact ⟨rfl, zipRes_ok_length hl hz⟩
  | iter ys => obtain ⟨hl, bs, hz, rfl⟩ := compare_vec_ok h; exact ⟨rfl, zipRes_ok_length hl hz⟩
  | scalar y => obtain ⟨bs, hz, rfl⟩ := compare_scalar_ok h; exact ⟨rfl, mapRes_ok_length hz⟩

/-- Vector ∘ Vector: where both elements are present the result is Python's own comparison of them -/
theorem compare_pointwise (cmp : α → β → Res Bool) (xs : List (Option α)) (ys : List (Option β))
    (r : Vec ν Bool) (h : Index.compare cmp xs (.vec ys) = .ok r) (i : Nat) (x : α) (y : β)
    (hx : xs[i]? = some (some x)) (hy : ys[i]? = some (some y)) :
    ∃ b, cmp x y = .ok b ∧ r.data[i]? = some b := by
  obtain ⟨_, bs, hz, rfl⟩ := compare_vec_ok h
  exact zipRes_ok_getElem? hz hx hy

/-- Vector ∘ Vector: a None on either side gives False at that position -/
theorem compare_none_false (cmp : α → β → Res Bool) (xs : List (Option α)) (ys : List (Option β))
    (r : Vec ν Bool) (h : Index.compare cmp xs (.vec ys) = .ok r) (i : Nat) (ox : Option α) (oy : Option β)
    (hx : xs[i]? = some ox) (hy : ys[i]? = some oy) (hnone : ox = none ∨ oy = none) :
    r.data[i]? = some false := by
  obtain ⟨_, bs, hz, rfl⟩ := compare_vec_ok h
  obtain ⟨b, hb, hbs⟩ := zipRes_ok_getElem? hz hx hy
  have : cmpPair cmp ox oy = .ok false := by
    rcases hnone with rfl | rfl
    · rfl
    · cases ox <;> rfl
  rw [this] at hb
  cases hb
  exact hbs

/-- Vector ∘ scalar: elementwise against the scalar, None ↦ False -/
theorem compare_scalar_pointwise (cmp : α → β → Res Bool) (xs : List (Option α)) (y : β)
    (r : Vec ν Bool) (h : Index.compare cmp xs (.scalar y) = .ok r) (i : Nat) :
    (∀ x, xs[i]? = some (some x) → ∃ b, cmp x y = .ok b ∧ r.data[i]? = some b) ∧
    (xs[i]? = some none → r.data[i]? = some false) := by
  obtain ⟨bs, hz, rfl⟩ := compare_scalar_ok h
  refine ⟨fun x hx => mapRes_ok_getElem? hz hx, fun hx => ?_⟩
  obtain ⟨b, hb, hbs⟩ := mapRes_ok_getElem? hz hx
  cases hb; exact hbs

/-- the comparison is answered whenever the lengths agree and Python defines every scalar comparison it
    needs; a length mismatch or a raising scalar comparison is an error -/
theorem compare_defined_iff (cmp : α → β → Res Bool) (xs : List (Option α)) (ys : List (Option β)) :
    (∃ r : Vec ν Bool, Index.compare cmp xs (.vec ys) = .ok r) ↔
      xs.length = ys.length ∧
      ∀ (i : Nat) (x : α) (y : β), xs[i]? = some (some x) → ys[i]? = some (some y) → ∃ b, cmp x y = .ok b := by
  constructor
  · rintro ⟨r, h⟩
    refine ⟨(compare_vec_ok h).1, fun i x y hx hy => ?_⟩
    obtain ⟨b, hb, _⟩ := compare_pointwise cmp xs ys r h i x y hx hy
    exact ⟨b, hb⟩
  · rintro ⟨hl, hall⟩
    have : ∃ zs, zipRes (cmpPair cmp) xs ys = .ok zs := by
      apply zipRes_ok_of_forall
      intro i ox oy hx hy
      cases ox with
      | none => exact ⟨false, rfl⟩
      | some x =>
        cases oy with
        | none => exact ⟨false, rfl⟩
        | some y => exact hall i x y hx hy
    obtain ⟨zs, hz⟩ := this
    exact ⟨boolVec zs, by simp [Index.compare, hl, hz, rmap]⟩

/-- a row selection (slice, boolean mask, integer Vector) restricts every column to the same rows: there is
    one position list, determined by the key and the row count alone, and every column of the result is the
    gather of the corresponding column at those positions, with its name and dtype; if the key raises
    (zero step, mask of the wrong length, subscript out of range) or is no row selection, no table comes back -/
theorem table_rowsel_uniform [DecidableEq ν] (ops : NameOps ν) (t : Tab ν α) (n : Nat)
    (hR : t.Rect n) (hne : t.cols ≠ []) (k : Key) :
    ok? (asTab (getitemTab ops t (.row k)))
      = (tabSel n k).map (fun idxs => ⟨t.cols.map (fun c => { data := gather c.data idxs, dtype := c.dtype, name := c.name })⟩) :=
  rowBranch_eq ops hR hne k

/-- a boolean mask whose length is not the row count is an error -/
theorem table_mask_wrong_length [DecidableEq ν] (ops : NameOps ν) (t : Tab ν α) (ms : List Bool)
    (hl : t.nrows ≠ ms.length) :
    getitemTab ops t (.row (.vec (some ⟨.bool, false⟩) (ms.map .bool))) = .error .other ∧
    (ms ≠ [] → getitemTab ops t (.row (.list (ms.map .bool))) = .error .other) := by
  constructor
  · simp [getitemTab, maskRows, hl]
  · intro hne
    simp only [getitemTab]
    rw [if_pos ⟨by simpa using hne, all_isBool_map ms⟩]
    simp [maskRows, hl]

/-- a string that no column answers to (neither by exact name nor by a sanitised form) is an error, and
    conversely a lookup only fails that way -/
theorem missing_column_errors [DecidableEq ν] (ops : NameOps ν) (cols : List (Vec ν α)) (key : ν) :
    (∀ j c, cols[j]? = some c → answers ops key j c.name = false) ↔ resolve ops cols key = .error .key := by
  rw [resolve_eq_error_iff, findCol_none, findCol_none]
  simp only [true_and, Nat.zero_add, answers, Bool.or_eq_false_iff]
  constructor
  · intro h
    exact ⟨fun j c hc => (h j c hc).1, fun j c hc => (h j c hc).2⟩
  · intro h j c hc
    exact ⟨h.1 j c hc, h.2 j c hc⟩

/-- in a multi-name selection one missing name makes the whole selection an error (nothing is dropped
    silently), also in the 2-D form `t[rows, names]` -/
theorem missing_column_errors_multi [DecidableEq ν] (ops : NameOps ν) (t : Tab ν α) (ks : List ν) (k : ν)
    (hk : k ∈ ks) (hmiss : ∀ j c, t.cols[j]? = some c → answers ops k j c.name = false) :
    (∃ e, getitemTab ops t (.names ks) = .error e) ∧
    ∀ s, ∃ e, getitemTab ops t (.two (.slice s) (.names ks)) = .error e := by
  have miss : ∀ cols : List (Vec ν α), (∀ j c, cols[j]? = some c → answers ops k j c.name = false) →
      ∃ e, selectNames ops cols ks = .error e := by
    intro cols h
    obtain ⟨e, he⟩ := mapRes_error_of_mem hk ((missing_column_errors ops cols k).mp h)
    exact ⟨e, by simp [selectNames, he]⟩
  refine ⟨?_, fun s => ?_⟩
  · obtain ⟨e, he⟩ := miss t.cols hmiss
    exact ⟨e, by simp [getitemTab, he]⟩
  · simp only [getitemTab, getTwo, Spec.isRow, if_true]
    cases hr : rowsel t (.slice s) with
    | error e => exact ⟨e, rfl⟩
    | ok rs =>
      -- the sliced columns keep their places and names, so the name is still missing
      have hmiss' : ∀ j c, rs.cols[j]? = some c → answers ops k j c.name = false := by
        intro j c hc
        obtain ⟨c0, hc0, hn⟩ := rowsel_getElem? rfl hr hc
        rw [hn]
        exact hmiss j c0 hc0
      obtain ⟨e, he⟩ := miss rs.cols hmiss'
      exact ⟨e, by simp [he]⟩

/-- a successful lookup returns a column of the table that answers to the key; an exact name wins over
    every sanitised form, and among equals the leftmost column wins -/
theorem resolve_sound [DecidableEq ν] (ops : NameOps ν) (cols : List (Vec ν α)) (key : ν) (c : Vec ν α)
    (h : resolve ops cols key = .ok c) :
    ∃ j, cols[j]? = some c ∧ answers ops key j c.name = true ∧
      ((∃ c' ∈ cols, c'.name = some key) → c.name = some key ∧
        ∀ j' c', j' < j → cols[j']? = some c' → c'.name ≠ some key) := by
  rcases resolve_eq_ok_iff.mp h with h1 | ⟨h1, h2⟩
  · -- found by its exact name: the leftmost such column
    obtain ⟨j, hj, hp, hmin⟩ := findCol_some h1
    have hp' : c.name = some key := by simpa using hp
    refine ⟨j, hj, by simp [answers, hp'], fun _ => ⟨hp', ?_⟩⟩
    intro j' c' hlt hc'
    have := hmin j' c' hlt hc'
    simpa using this
  · -- found by a sanitised form: then no column has the exact name
    obtain ⟨j, hj, hp, _⟩ := findCol_some h2
    simp only [Nat.zero_add] at hp
    refine ⟨j, hj, by simp [answers, hp], ?_⟩
    rintro ⟨c', hc', hn⟩
    obtain ⟨j', hj'⟩ := List.getElem?_of_mem hc'
    have := findCol_none.mp h1 j' c' hj'
    simp [hn] at this

/-- a multi-name selection returns one column per requested name, in request order, repeats included -/
theorem select_names_columns [DecidableEq ν] (ops : NameOps ν) (t : Tab ν α) (ks : List ν) (t' : Tab ν α)
    (h : getitemTab ops t (.names ks) = .ok (.tab t')) :
    t'.cols.length = ks.length ∧
    ∀ (i : Nat) (k : ν), ks[i]? = some k → ∃ c, resolve ops t.cols k = .ok c ∧ t'.cols[i]? = some c := by
  obtain ⟨_, h, ht⟩ := rmap_eq_ok (f := TItem.tab) h
  cases ht
  obtain ⟨cs, hm, rfl⟩ := rmap_eq_ok h
  exact ⟨mapRes_ok_length hm, fun i k hk => mapRes_ok_getElem? hm hk⟩

/-- the 2-D form is the sequential form, whichever member comes first:
    `t[s, names] = t[names, s] = t[s][names]` -/
theorem two_d_eq_sequential [DecidableEq ν] (ops : NameOps ν) (t : Tab ν α) (s : Slice) (ks : List ν) :
    getitemTab ops t (.two (.names ks) (.slice s)) = getitemTab ops t (.two (.slice s) (.names ks)) ∧
    asTab (getitemTab ops t (.two (.slice s) (.names ks))) = rowsThenCols ops t (.slice s) ks := by
  constructor
  · rfl
  · simp only [getitemTab, getTwo, Spec.isRow, if_true, rowsThenCols, asTab_rmap_tab]
    cases rowsel t (.slice s) with
    | error e => rfl
    | ok rs => simp only [asTab_rmap_tab]

/-- row selection and column selection commute: `t[rows][names]` and `t[names][rows]` either both fail or
    return the same table (same cells, same names, same dtypes, same column order) — for every key in the
    row position (slices, masks of the right or wrong length, integer Vectors, and keys that select nothing)
    and every non-empty tuple of names with repeats and missing names -/
theorem select_commute [DecidableEq ν] (ops : NameOps ν) (t : Tab ν α) (n : Nat)
    (hR : t.Rect n) (hne : t.cols ≠ []) (k : Key) (ks : List ν) (hks : ks ≠ []) :
    ok? (rowsThenCols ops t k ks) = ok? (colsThenRows ops t k ks) := by
  -- rows first: the names are then looked up among the gathered columns, which keep their names
  have hL : ok? (rowsThenCols ops t k ks)
      = (tabSel n k).bind (fun idxs => (ok? (selectNames ops t.cols ks)).map (gatherTab idxs)) := by
    rw [ok?_rowsThenCols, rowBranch_eq ops hR hne k, Option.bind_map]
    congr 1
    funext idxs
    simp only [Function.comp, gatherTab]
    rw [selectNames_map ops (gatherCol idxs) (fun _ => rfl), ok?_rmap]
    rfl
  -- names first: the selected columns are columns of `t`, so the selection is rectangular again
  have hRt : ok? (colsThenRows ops t k ks)
      = (ok? (selectNames ops t.cols ks)).bind (fun t' => (tabSel n k).map (fun idxs => gatherTab idxs t')) := by
    rw [ok?_colsThenRows]
    apply Option.bind_congr
    intro t' ht'
    obtain ⟨cs, hm, rfl⟩ := rmap_eq_ok (ok?_eq_some.mp ht')
    refine rowBranch_eq ops (fun c hc => ?_) (fun h0 => ?_) k
    · obtain ⟨k', _, hk'⟩ := mapRes_ok_mem hm hc
      exact hR c (resolve_mem hk')
    · have := mapRes_ok_length hm
      simp only at h0
      rw [h0] at this
      exact hks (List.eq_nil_of_length_eq_zero this.symm)
  rw [hL, hRt]
  cases tabSel n k <;> cases ok? (selectNames ops t.cols ks) <;> rfl

/-! #### non-vacuity: the hypotheses are satisfiable and the statements bite on concrete inputs -/

section examples
def v5 : Vec String Nat := { data := [10, 11, 12, 13, 14], dtype := some ⟨.int, false⟩, name := some "x" }

example : getitem v5 (.slice ⟨some 5, some 9, none⟩) = .ok (.vec { v5 with data := [] }) := by decide
example : getitem v5 (.slice ⟨some 2, some 2, none⟩) = .ok (.vec { v5 with data := [] }) := by decide
example : getitem v5 (.slice ⟨some (-2), none, some (-2)⟩) = .ok (.vec { v5 with data := [13, 11] }) := by decide
example : getitem v5 (.slice ⟨none, none, some 0⟩) = .error .value := by decide
example : sliceLength 5 ⟨some (-2), none, some (-2)⟩ = .ok 2 := by decide
example : getitem v5 (.list [.bool true, .bool false, .bool true, .bool false, .bool false])
    = .ok (.vec { v5 with data := [10, 12] }) := by decide
example : getitem v5 (.list [.bool true]) = .error .value := by decide
example : getitem v5 (.vec (some ⟨.int, false⟩) [.int (-1), .int 0]) = .ok (.vec { v5 with data := [14, 10] }) := by decide
example : getitem v5 (.list []) = .error .type := by decide

def opsEx : NameOps String :=
  { lower := fun s => if s = "A_B" then "a_b" else s
    sanitize := fun s => if s = "A b" then some "a_b" else if s = "!!" then none else some s
    uniq := fun b i => b ++ "__" ++ toString i
    sys := fun i => "col" ++ toString i ++ "_" }
def tEx : Tab String Nat :=
  ⟨[{ data := [1, 2, 3], dtype := none, name := some "a" }, { data := [4, 5, 6], dtype := none, name := some "A b" },
    { data := [7, 8, 9], dtype := none, name := some "a" }, { data := [0, 0, 0], dtype := none, name := none }]⟩

example : tEx.Rect 3 := by simp [Tab.Rect, tEx]
example : ok? (rowsThenCols opsEx tEx (.slice ⟨some 1, none, none⟩) ["A_B", "a", "a__2", "col3_"])
    = some ⟨[{ data := [5, 6], dtype := none, name := some "A b" }, { data := [2, 3], dtype := none, name := some "a" },
             { data := [8, 9], dtype := none, name := some "a" }, { data := [0, 0], dtype := none, name := none }]⟩ := by decide +kernel
example : ok? (colsThenRows opsEx tEx (.slice ⟨some 1, none, none⟩) ["A_B", "a", "a__2", "col3_"])
    = ok? (rowsThenCols opsEx tEx (.slice ⟨some 1, none, none⟩) ["A_B", "a", "a__2", "col3_"]) := by decide +kernel
example : getitemTab opsEx tEx (.names ["a", "missing"]) = .error .key := by decide +kernel
example : (Index.compare (ν := String) (fun (x y : Nat) => .ok (decide (x < y))) [some 1, none, some 5] (.vec [some 2, some 3, none])).toOption
    = some (boolVec [true, false, false]) := by decide
end examples

end Serif.C07
