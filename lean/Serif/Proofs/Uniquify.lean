/-
  The two models of `uniquify` — `X.findFresh`/`X.uniquify`/`X.uniqAll` of the expression model (C18) and
  `Group.uniqLoop`/`Group.uniquify`/`Group.uniquifyAll` of the group-by model (C12) — are one function: the pigeonhole
  argument is `Group.uniqLoop_spec_of_bound`, and the optional result of `findFresh` is the loop's answer.
-/
import Serif.Model.Expr
import Serif.Proofs.Group

namespace Serif.X

theorem findFresh_of_min (name : String) (used : List String) (fuel i j : Nat) (hij : i ≤ j) (hf : j < i + fuel)
    (hused : ∀ j', i ≤ j' → j' < j → name ++ toString j' ∈ used) (hfree : name ++ toString j ∉ used) :
    findFresh name used fuel i = some (name ++ toString j) := by
  induction fuel generalizing i with
  | zero => exact absurd hf (Nat.not_lt.mpr hij)
  | succ fuel ih =>
    rw [findFresh]
    by_cases e : i = j
    · subst e
      rw [if_neg (by simpa using hfree)]
    · have hlt : i < j := Nat.lt_of_le_of_ne hij e
      rw [if_pos (by simpa using hused i (Nat.le_refl _) hlt)]
      have hf' : j < i + 1 + fuel := (Nat.add_right_comm i 1 fuel).symm ▸ hf
      exact ih (i + 1) hlt hf' fun j' h1 h2 => hused j' (Nat.le_of_succ_le h1) h2

theorem findFresh_eq_uniqLoop (name : String) (used : List String) :
    findFresh name used (used.length + 1) 2 = some (Group.uniqLoop toString name used (used.length + 1) 2) := by
  obtain ⟨j, hij, hlt, heq, hfree, hmin⟩ := Group.uniqLoop_spec_of_bound toString name
    (Group.toString_suffix_injective name) used (used.length + 1) 2 used (fun _ _ h => h) (Nat.lt_succ_self _)
  rw [heq]
  exact findFresh_of_min name used _ 2 j hij hlt hmin hfree

theorem uniquify_eq_group (used : List String) (name : String) :
    uniquify used name = (Group.uniquify toString used name).1 := by
  unfold uniquify Group.uniquify
  rw [findFresh_eq_uniqLoop]
  split <;> rfl

theorem uniqAll_eq_group (used l : List String) : uniqAll used l = Group.uniquifyAll toString l used := by
  induction l generalizing used with
  | nil => rfl
  | cons c cs ih =>
    simp only [uniqAll, Group.uniquifyAll]
    rw [uniquify_eq_group, ih, (Group.uniquify_fresh toString Group.toString_suffix_injective used c).2]

theorem uniquify_spec (used : List String) (name : String) :
    uniquify used name ∉ used ∧
      (uniquify used name = name ∨ ∃ j, 2 ≤ j ∧ uniquify used name = name ++ toString j) := by
  constructor
  · rw [uniquify_eq_group]
    exact (Group.uniquify_fresh toString Group.toString_suffix_injective used name).1
  unfold uniquify
  split
  · obtain ⟨j, hij, heq, _⟩ := Group.uniqLoop_spec toString name (Group.toString_suffix_injective name)
      (used.length + 1) used 2 (Nat.lt_succ_self _)
    rw [findFresh_eq_uniqLoop, Option.getD_some, heq]
    exact Or.inr ⟨j, hij, rfl⟩
  · exact Or.inl rfl

theorem uniqAll_length (used cs : List String) : (uniqAll used cs).length = cs.length :=
  uniqAll_eq_group used cs ▸ Group.uniquifyAll_length toString cs used

theorem uniqAll_nodup (used cs : List String) : (uniqAll used cs).Nodup :=
  uniqAll_eq_group used cs ▸ (Group.uniquifyAll_fresh_nodup toString Group.toString_suffix_injective cs used).1

theorem uniqAll_form (used cs : List String) :
    ∀ p ∈ cs.zip (uniqAll used cs), p.2 = p.1 ∨ ∃ j, 2 ≤ j ∧ p.2 = p.1 ++ toString j := by
  induction cs generalizing used with
  | nil => simp [uniqAll]
  | cons c cs ih =>
    simp only [uniqAll, List.zip_cons_cons]
    exact List.forall_mem_cons.mpr ⟨(uniquify_spec used c).2, ih _⟩

end Serif.X
