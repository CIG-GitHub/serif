/-
  The object-identity model (Model/ObjHeap.lean).  What an object shows depends on the object and its columns only
  (`abs_congr`): every frame theorem of Props/C01 is an instance.  Statements speak of `h.objs`: `h.obj o` is the same by
  `rfl` (`obj_def`), but no `rw` sees that; `h.obj` stands in `LenOK` (Proofs/HeapRect), `setattrReplaceT_eq_step` and
  `setattr_keeps_source` (Tie/Ownership), `vectorFingerprint_eq` (Tie/Fingerprint), `invalidateFp_setVec` (Tie/HashElem).
  A lemma about the heap a step produces takes that heap as a variable with hypotheses (as `abs_congr` does): the
  struct-update terms of `step` do not elaborate to themselves when written out again in a `have`.
-/
import Serif.Model.ObjHeap
import Serif.Proofs.Util

namespace Serif

theorem nodup_set_of_not_mem {α : Type} (l : List α) (j : Nat) (a : α) (nd : l.Nodup) (ha : a ∉ l) :
    (l.set j a).Nodup := by
  induction l generalizing j with
  | nil => simp
  | cons b l ih =>
    cases j with
    | zero =>
      simp only [List.set_cons_zero, List.nodup_cons] at nd ⊢
      exact ⟨fun h => ha (List.mem_cons_of_mem _ h), nd.2⟩
    | succ j =>
      simp only [List.set_cons_succ, List.nodup_cons] at nd ⊢
      refine ⟨fun h => ?_, ih j nd.2 (fun h => ha (List.mem_cons_of_mem _ h))⟩
      rcases List.mem_or_eq_of_mem_set h with h1 | h1
      · exact nd.1 h1
      · exact ha (by rw [h1]; exact List.mem_cons_self)

namespace Heap

variable (fpOf : VecVal → Int)

@[simp] theorem upd_same {α} (f : Nat → Option α) (k : Nat) (v : Option α) : upd f k v k = v := by
  simp [upd]

theorem upd_ne {α} (f : Nat → Option α) (k k' : Nat) (v : Option α) (h : k' ≠ k) : upd f k v k' = f k' := by
  simp [upd, h]

theorem obj_def (h : Heap) (o : Nat) : h.obj o = h.objs o := rfl

theorem tab_of_upd_vec {f : Nat → Option Obj} {o k : Nat} {v : VecVal} {fp : Option Int} {cs : List Nat}
    (hk : upd f o (some (.vec v fp)) k = some (.tab cs)) : f k = some (.tab cs) := by
  by_cases e : k = o
  · subst e; simp at hk
  · rwa [upd_ne _ _ _ _ e] at hk

theorem tab_of_upd_tab {f : Nat → Option Obj} {t o : Nat} {cs cols : List Nat}
    (ho : upd f t (some (.tab cs)) o = some (.tab cols)) : (o = t ∧ cols = cs) ∨ (o ≠ t ∧ f o = some (.tab cols)) := by
  by_cases e : o = t
  · subst e
    rw [upd_same] at ho
    cases ho
    exact .inl ⟨rfl, rfl⟩
  · exact .inr ⟨e, (upd_ne _ _ _ _ e).symm.trans ho⟩

theorem upd_upd_same {α : Type} (f : Nat → Option α) (k : Nat) (a b : Option α) : upd (upd f k a) k b = upd f k b := by
  funext x
  simp only [upd]
  split <;> rfl

theorem mem_columnsOf {h : Heap} {o c : Nat} : c ∈ h.columnsOf o ↔ ∃ cols, h.objs o = some (.tab cols) ∧ c ∈ cols := by
  unfold columnsOf obj
  cases h.objs o with
  | none => simp
  | some ob => cases ob <;> simp

theorem indep_iff {h : Heap} {o w : Nat} : h.indep o w = true ↔ o ≠ w ∧ w ∉ h.columnsOf o := by
  simp [indep]

theorem vecOf_congr (h h' : Heap) (c : Nat) (hc : h'.objs c = h.objs c) : h'.vecOf c = h.vecOf c := by
  simp [vecOf, obj, hc]

theorem abs_congr (h h' : Heap) (o : Nat) (ho : h'.objs o = h.objs o)
    (hc : ∀ c ∈ h.columnsOf o, h'.vecOf c = h.vecOf c) : h'.abs o = h.abs o := by
  unfold abs obj
  rw [ho]
  cases hobj : h.objs o with
  | none => rfl
  | some ob =>
    cases ob with
    | vec v fp => rfl
    | tab cols =>
      simp only
      congr 2
      exact List.filterMap_congr fun c hcmem => hc c (mem_columnsOf.mpr ⟨cols, hobj, hcmem⟩)

theorem abs_eq_of_objs_eq {h h' : Heap} {o : Nat} (ho : h'.objs o = h.objs o)
    (hc : ∀ c ∈ h.columnsOf o, h'.objs c = h.objs c) : h'.abs o = h.abs o :=
  abs_congr h h' o ho fun c hm => vecOf_congr h h' c (hc c hm)

theorem view_congr {h h' : Heap} {r : Nat} (hr : h'.roots r = h.roots r)
    (ha : ∀ o, h.roots r = some o → h'.abs o = h.abs o) : h'.view r = h.view r := by
  simp only [view, root, hr]
  cases e : h.roots r with
  | none => rfl
  | some o => exact ha o e

theorem setVec_cases {P : Heap → Prop} (h : Heap) (o : Nat) (v : VecVal) (same : P h)
    (put : ∀ v0 fp, h.objs o = some (.vec v0 fp) → P { h with objs := upd h.objs o (some (.vec v none)) }) :
    P (h.setVec o v) := by
  unfold setVec
  split
  · next v0 fp ho => exact put v0 fp ho
  · exact same

theorem memo_cases {P : Heap → Prop} (h : Heap) (o : Nat) (same : P h)
    (put : ∀ v fp, h.objs o = some (.vec v fp) → P { h with objs := upd h.objs o (some (.vec v (some (fpOf v)))) }) :
    P (memo fpOf h o) := by
  unfold memo
  split
  · next v fp ho => exact put v fp ho
  · exact same

theorem setVec_objs_ne (h : Heap) (w k : Nat) (v : VecVal) (hk : k ≠ w) : (h.setVec w v).objs k = h.objs k :=
  setVec_cases (P := fun g => g.objs k = h.objs k) h w v rfl fun _ _ _ => upd_ne _ _ _ _ hk

theorem setVec_roots (h : Heap) (w : Nat) (v : VecVal) : (h.setVec w v).roots = h.roots :=
  setVec_cases (P := fun g => g.roots = h.roots) h w v rfl fun _ _ _ => rfl

theorem setVec_next (h : Heap) (w : Nat) (v : VecVal) : (h.setVec w v).next = h.next := by
  unfold setVec; split <;> rfl

theorem setVec_tab (h : Heap) (w k : Nat) (v : VecVal) (cols : List Nat) :
    (h.setVec w v).objs k = some (.tab cols) ↔ h.objs k = some (.tab cols) := by
  refine setVec_cases (P := fun g => g.objs k = some (.tab cols) ↔ _) h w v Iff.rfl fun v0 fp hw => ?_
  by_cases hk : k = w
  · simp [hk, hw]
  · simp [upd_ne _ _ _ _ hk]

theorem columnsOf_setVec (h : Heap) (w k : Nat) (v : VecVal) : (h.setVec w v).columnsOf k = h.columnsOf k := by
  refine setVec_cases (P := fun g => g.columnsOf k = _) h w v rfl fun v0 fp hw => ?_
  by_cases hk : k = w
  · simp [columnsOf, obj, hk, hw]
  · simp [columnsOf, obj, upd_ne _ _ _ _ hk]

theorem abs_setVec_indep (h : Heap) (o w : Nat) (v : VecVal) (hi : h.indep o w = true) :
    (h.setVec w v).abs o = h.abs o :=
  have ⟨hne, hc⟩ := indep_iff.mp hi
  abs_eq_of_objs_eq (setVec_objs_ne h w o v hne) fun c hm => setVec_objs_ne h w c v fun e => hc (e ▸ hm)

theorem view_mutate_of_indep (h : Heap) (r r' w : Nat) (v : VecVal) (hr : h.root r = some w)
    (hi : ∀ o, h.root r' = some o → h.indep o w = true) : (step fpOf h (.mutate r v)).view r' = h.view r' := by
  simp only [step, hr]
  exact view_congr (congrFun (setVec_roots h w v) r') fun o e => abs_setVec_indep h o w v (hi o e)

theorem abs_setVec_self (h : Heap) (w : Nat) (v v0 : VecVal) (fp : Option Int)
    (hw : h.objs w = some (.vec v0 fp)) : (h.setVec w v).abs w = some (.vec v) := by
  simp [setVec, obj, hw, abs]

theorem setVecs_induction {P : Heap → Prop} (os : List Nat) (vs : List VecVal) (h : Heap) (h0 : P h)
    (hs : ∀ g o v, (o, v) ∈ os.zip vs → P g → P (g.setVec o v)) : P (h.setVecs os vs) := by
  induction os generalizing h vs with
  | nil => exact h0
  | cons o os ih =>
    cases vs with
    | nil => exact h0
    | cons v vs =>
      exact ih vs _ (hs h o v (by simp) h0) fun g o' v' hm => hs g o' v' (by simp [hm])

theorem setVecs_roots (h : Heap) (os : List Nat) (vs : List VecVal) : (h.setVecs os vs).roots = h.roots :=
  setVecs_induction (P := fun g => g.roots = h.roots) os vs h rfl fun g o v _ hg => (setVec_roots g o v).trans hg

theorem step_tabMutate {h : Heap} {t ot : Nat} (vs : List VecVal) (ht : h.root t = some ot) :
    step fpOf h (.tabMutate t vs) = h.setVecs (h.columnsOf ot) vs := by
  simp only [step, ht, columnsOf]
  cases h.obj ot with
  | none => rfl
  | some ob => cases ob <;> rfl

theorem abs_setVecs_indep (h : Heap) (o : Nat) (os : List Nat) (vs : List VecVal) (hi : ∀ w ∈ os, h.indep o w = true) :
    (h.setVecs os vs).abs o = h.abs o := by
  refine (setVecs_induction (P := fun g => g.columnsOf o = h.columnsOf o ∧ g.abs o = h.abs o) os vs h ⟨rfl, rfl⟩ ?_).2
  intro g w v hm ⟨hc, ha⟩
  have hw := indep_iff.mp (hi w (List.of_mem_zip hm).1)
  exact ⟨(columnsOf_setVec g w o v).trans hc, (abs_setVec_indep g o w v (indep_iff.mpr ⟨hw.1, hc ▸ hw.2⟩)).trans ha⟩

theorem abs_upd_memo (h : Heap) (c : Nat) (v : VecVal) (fp0 fp : Option Int)
    (hc : h.objs c = some (.vec v fp0)) (o : Nat) :
    ({ h with objs := upd h.objs c (some (.vec v fp)) } : Heap).abs o = h.abs o := by
  have hv : ∀ x, ({ h with objs := upd h.objs c (some (.vec v fp)) } : Heap).vecOf x = h.vecOf x := by
    intro x
    by_cases e : x = c
    · subst e; simp [vecOf, obj, hc]
    · exact vecOf_congr _ _ _ (upd_ne _ _ _ _ e)
  by_cases e : o = c
  · subst e; simp [abs, obj, hc]
  · exact abs_congr _ _ o (upd_ne _ _ _ _ e) fun x _ => hv x

theorem memo_abs (g : Heap) (c o : Nat) : (memo fpOf g c).abs o = g.abs o :=
  memo_cases fpOf (P := fun g' => g'.abs o = g.abs o) g c rfl fun v fp0 hv => abs_upd_memo g c v fp0 _ hv o

theorem memo_roots (g : Heap) (c : Nat) : (memo fpOf g c).roots = g.roots :=
  memo_cases fpOf (P := fun g' => g'.roots = g.roots) g c rfl fun _ _ _ => rfl

theorem memo_foldl_induction {P : Heap → Prop} (hs : ∀ g c, P g → P (memo fpOf g c))
    (cols : List Nat) (h : Heap) (h0 : P h) : P (cols.foldl (memo fpOf) h) :=
  List.foldlRecOn cols (memo fpOf) h0 fun g hg c _ => hs g c hg

theorem memo_foldl_abs (cols : List Nat) (g : Heap) (o : Nat) :
    (cols.foldl (memo fpOf) g).abs o = g.abs o :=
  memo_foldl_induction fpOf (P := fun g' => g'.abs o = g.abs o) (fun g' c hg => (memo_abs fpOf g' c o).trans hg) cols g rfl

theorem memo_foldl_roots (cols : List Nat) (g : Heap) :
    (cols.foldl (memo fpOf) g).roots = g.roots :=
  memo_foldl_induction fpOf (P := fun g' => g'.roots = g.roots) (fun g' c hg => (memo_roots fpOf g' c).trans hg) cols g rfl

/-- `same` (a guard fails, or `noop`) is asked for every `op`, also for those that cannot end that way.  `fingerprint`: `cols` are
    the columns of a table object, or `[o]` for a vector object `o`; no fact about `cols` is supplied. -/
theorem step_cases (h : Heap) {P : HOp → Heap → Prop}
    (same : ∀ op, P op h)
    (derive : ∀ dst val, P (.derive dst val) { (h.alloc val).1 with roots := upd (h.alloc val).1.roots dst (some (h.alloc val).2) })
    (getCol : ∀ dst t j ot cols oc, h.root t = some ot → h.objs ot = some (.tab cols) → cols[j]? = some oc →
      P (.getCol dst t j) { h with roots := upd h.roots dst (some oc) })
    (setAttr : ∀ t j src ot os cols sv oc v, h.root t = some ot → h.root src = some os → h.objs ot = some (.tab cols) →
      h.vecOf os = some sv → cols[j]? = some oc → v = { sv with name := (h.vecOf oc).bind (·.name) } →
      P (.setAttr t j src) { (h.allocVec v).1 with objs := upd (h.allocVec v).1.objs ot (some (.tab (cols.set j h.next))) })
    (mutate : ∀ r v o, h.root r = some o → P (.mutate r v) (h.setVec o v))
    (tabMutate : ∀ t vs ot cols, h.root t = some ot → h.objs ot = some (.tab cols) → P (.tabMutate t vs) (h.setVecs cols vs))
    (drop : ∀ r, P (.drop r) { h with roots := upd h.roots r none })
    (fingerprint : ∀ r (cols : List Nat), P (.fingerprint r) (cols.foldl (memo fpOf) h))
    (op : HOp) : P op (step fpOf h op) := by
  cases op with
  | derive dst val => exact derive dst val
  | getCol dst t j =>
    simp only [step]
    split
    · next ot hot =>
      split
      · next cols hcols =>
        split
        · next oc hoc => exact getCol dst t j ot cols oc hot hcols hoc
        · exact same _
      · exact same _
    · exact same _
  | setAttr t j src =>
    simp only [step]
    split
    · next ot os hot hos =>
      split
      · next cols sv hcols hsv =>
        split
        · next oc hoc => exact setAttr t j src ot os cols sv oc _ hot hos hcols hsv hoc rfl
        · exact same _
      · exact same _
    · exact same _
  | mutate r v =>
    simp only [step]
    split
    · next o ho => exact mutate r v o ho
    · exact same _
  | tabMutate t vs =>
    simp only [step]
    split
    · next ot hot =>
      split
      · next cols hcols => exact tabMutate t vs ot cols hot hcols
      · exact same _
    · exact same _
  | drop r => exact drop r
  | fingerprint r =>
    simp only [step]
    split
    · next o _ =>
      split
      · next hv => simpa only [List.foldl, memo, hv] using fingerprint r [o]
      · exact fingerprint r _
      · exact same _
    · exact same _
  | noop => exact same _

theorem run_induction {P : Heap → Prop} (hs : ∀ h op, P h → P (step fpOf h op))
    (ops : List HOp) (h : Heap) (h0 : P h) : P (run fpOf h ops) :=
  List.foldlRecOn ops (step fpOf) h0 fun g hg op _ => hs g op hg

/-- invariant of every reachable heap -/
structure WF (h : Heap) : Prop where
  fresh : ∀ k, h.next ≤ k → h.objs k = none
  roots_lt : ∀ r o, h.roots r = some o → o < h.next
  cols_vec : ∀ o cols, h.objs o = some (.tab cols) → ∀ c ∈ cols, ∃ v fp, h.objs c = some (.vec v fp)
  /-- ownership: an object is a column of at most one table … -/
  own : ∀ o1 o2 c1 c2 c, h.objs o1 = some (.tab c1) → h.objs o2 = some (.tab c2) → c ∈ c1 → c ∈ c2 → o1 = o2
  /-- … and at most once -/
  nodup : ∀ o cols, h.objs o = some (.tab cols) → cols.Nodup

theorem WF.lt_of_some {h : Heap} (wf : WF h) {k : Nat} {ob : Obj} (hk : h.objs k = some ob) : k < h.next :=
  Nat.lt_of_not_le fun h1 => by simp [wf.fresh k h1] at hk

theorem WF.lt_of_vecOf {h : Heap} (wf : WF h) {o : Nat} {x : VecVal} (hx : h.vecOf o = some x) : o < h.next := by
  cases hobj : h.objs o with
  | none => simp [vecOf, obj, hobj] at hx
  | some ob => exact wf.lt_of_some hobj

theorem WF.lt_of_forall_vecOf {h : Heap} (wf : WF h) {os : List Nat} (hv : ∀ o ∈ os, ∃ x, h.vecOf o = some x) :
    ∀ o ∈ os, o < h.next := by
  intro o ho
  obtain ⟨_, hx⟩ := hv o ho
  exact wf.lt_of_vecOf hx

theorem WF.columnsOf_vec {h : Heap} (wf : WF h) {o c : Nat} (hc : c ∈ h.columnsOf o) : ∃ v fp, h.objs c = some (.vec v fp) :=
  let ⟨cols, ho, hm⟩ := mem_columnsOf.mp hc
  wf.cols_vec o cols ho c hm

theorem WF.columnsOf_lt {h : Heap} (wf : WF h) {o c : Nat} (hc : c ∈ h.columnsOf o) : c < h.next :=
  let ⟨_, _, hv⟩ := wf.columnsOf_vec hc
  wf.lt_of_some hv

theorem WF.view_eq_of_objs_lt {h h' : Heap} (wf : WF h) (hr : h'.roots = h.roots)
    (ho : ∀ k, k < h.next → h'.objs k = h.objs k) (r : Nat) : h'.view r = h.view r :=
  view_congr (congrFun hr r) fun o e =>
    abs_eq_of_objs_eq (ho o (wf.roots_lt r o e)) fun c hc => ho c (wf.columnsOf_lt hc)

theorem wf_empty : WF empty := by
  constructor <;> simp [empty]

theorem WF.put_vec {h : Heap} (wf : WF h) {o n : Nat} (hn : h.next ≤ n) (ho : o < n) (v : VecVal) (fp : Option Int) :
    WF { h with objs := upd h.objs o (some (.vec v fp)), next := n } := by
  refine ⟨fun k hk => ?_, fun r o' hr => Nat.lt_of_lt_of_le (wf.roots_lt r o' hr) hn, fun t cs ht c hc => ?_,
    fun o1 o2 c1 c2 c h1 h2 => wf.own o1 o2 c1 c2 c (tab_of_upd_vec h1) (tab_of_upd_vec h2),
    fun t cs ht => wf.nodup t cs (tab_of_upd_vec ht)⟩
  · have hk : n ≤ k := hk
    show upd _ _ _ k = none
    rw [upd_ne _ _ _ _ (Nat.ne_of_gt (Nat.lt_of_lt_of_le ho hk))]
    exact wf.fresh k (Nat.le_trans hn hk)
  · obtain ⟨x, f, hx⟩ := wf.cols_vec t cs (tab_of_upd_vec ht) c hc
    by_cases e : c = o
    · exact ⟨v, fp, by simp [e]⟩
    · exact ⟨x, f, (upd_ne _ _ _ _ e).trans hx⟩

/-- `hnv`: the id of a table must be nobody's column, and columns are vectors -/
theorem WF.put_tab {h : Heap} (wf : WF h) {t n : Nat} {cs : List Nat} (hn : h.next ≤ n) (ht : t < n)
    (hnv : ∀ v fp, h.objs t ≠ some (.vec v fp))
    (hvec : ∀ c ∈ cs, ∃ v fp, h.objs c = some (.vec v fp)) (nd : cs.Nodup)
    (hown : ∀ o cols c, o ≠ t → h.objs o = some (.tab cols) → c ∈ cols → c ∉ cs) :
    WF { h with objs := upd h.objs t (some (.tab cs)), next := n } := by
  have vecs : ∀ {c}, (∃ v fp, h.objs c = some (.vec v fp)) → ∃ v fp, upd h.objs t (some (.tab cs)) c = some (.vec v fp) :=
    fun {c} ⟨v, fp, hc⟩ => ⟨v, fp, (upd_ne _ _ _ _ fun (e : c = t) => hnv v fp (e ▸ hc)).trans hc⟩
  refine ⟨fun k hk => ?_, fun r o hr => Nat.lt_of_lt_of_le (wf.roots_lt r o hr) hn, fun o cols ho c hc => ?_,
    fun o1 o2 c1 c2 c h1 h2 m1 m2 => ?_, fun o cols ho => ?_⟩
  · have hk : n ≤ k := hk
    show upd _ _ _ k = none
    rw [upd_ne _ _ _ _ (Nat.ne_of_gt (Nat.lt_of_lt_of_le ht hk))]
    exact wf.fresh k (Nat.le_trans hn hk)
  · rcases tab_of_upd_tab ho with ⟨_, rfl⟩ | ⟨_, ho⟩
    · exact vecs (hvec c hc)
    · exact vecs (wf.cols_vec o cols ho c hc)
  · -- own: the written table against an old one is `hown`
    rcases tab_of_upd_tab h1 with ⟨rfl, rfl⟩ | ⟨e1, h1'⟩
    · rcases tab_of_upd_tab h2 with ⟨rfl, rfl⟩ | ⟨e2, h2'⟩
      · rfl
      · exact absurd m1 (hown o2 c2 c e2 h2' m2)
    · rcases tab_of_upd_tab h2 with ⟨rfl, rfl⟩ | ⟨e2, h2'⟩
      · exact absurd m2 (hown o1 c1 c e1 h1' m1)
      · exact wf.own o1 o2 c1 c2 c h1' h2' m1 m2
  · rcases tab_of_upd_tab ho with ⟨_, rfl⟩ | ⟨_, ho⟩
    · exact nd
    · exact wf.nodup o cols ho

theorem allocVec_objs_ne (h : Heap) (v : VecVal) (k : Nat) (hk : k ≠ h.next) :
    (h.allocVec v).1.objs k = h.objs k := by
  simp [allocVec, upd, hk]

theorem allocVec_wf (h : Heap) (v : VecVal) (wf : WF h) : WF (h.allocVec v).1 :=
  wf.put_vec (Nat.le_succ _) (Nat.lt_succ_self _) v none

theorem WF.allocVec_objs {h : Heap} (wf : WF h) (v : VecVal) {k : Nat} {ob : Obj} (hk : h.objs k = some ob) :
    (h.allocVec v).1.objs k = some ob :=
  (allocVec_objs_ne h v k (Nat.ne_of_lt (wf.lt_of_some hk))).trans hk

theorem allocVec_next (h : Heap) (v : VecVal) : (h.allocVec v).1.next = h.next + 1 := rfl
theorem allocVec_id (h : Heap) (v : VecVal) : (h.allocVec v).2 = h.next := rfl
theorem allocVec_roots (h : Heap) (v : VecVal) : (h.allocVec v).1.roots = h.roots := rfl
theorem allocVec_new (h : Heap) (v : VecVal) : (h.allocVec v).1.objs h.next = some (.vec v none) := by
  simp [allocVec]

theorem allocVecs_induction {P : Heap → Prop} (hs : ∀ g v, P g → P (g.allocVec v).1) (vs : List VecVal) (h : Heap)
    (h0 : P h) : P (h.allocVecs vs).1 := by
  induction vs generalizing h with
  | nil => exact h0
  | cons v vs ih => exact ih _ (hs h v h0)

theorem allocVecs_wf (h : Heap) (vs : List VecVal) (wf : WF h) : WF (h.allocVecs vs).1 :=
  allocVecs_induction (fun g v => allocVec_wf g v) vs h wf

theorem allocVecs_roots (h : Heap) (vs : List VecVal) : (h.allocVecs vs).1.roots = h.roots :=
  allocVecs_induction (P := fun g => g.roots = h.roots) (fun _ _ hg => hg) vs h rfl

structure AllocVecsSpec (h : Heap) (vs : List VecVal) : Prop where
  next : (h.allocVecs vs).1.next = h.next + vs.length
  objs_lt : ∀ k, k < h.next → (h.allocVecs vs).1.objs k = h.objs k
  ids : (h.allocVecs vs).2 = List.range' h.next vs.length
  shows : (h.allocVecs vs).2.filterMap (h.allocVecs vs).1.vecOf = vs
  new : ∀ k, h.next ≤ k → k < h.next + vs.length → ∃ x ∈ vs, (h.allocVecs vs).1.objs k = some (.vec x none)

theorem allocVecs_spec (h : Heap) (vs : List VecVal) : AllocVecsSpec h vs := by
  induction vs generalizing h with
  | nil => constructor <;> simp [allocVecs]
  | cons v vs ih =>
    have ih := ih (h.allocVec v).1
    have hnew : (allocVecs (h.allocVec v).1 vs).1.objs h.next = some (.vec v none) := by
      rw [ih.objs_lt _ (Nat.lt_succ_self _), allocVec_new]
    refine ⟨?_, fun k hk => ?_, ?_, ?_, fun k h1 h2 => ?_⟩ <;> simp only [allocVecs]
    · rw [ih.next, allocVec_next, List.length_cons, Nat.add_assoc, Nat.add_comm 1]
    · rw [ih.objs_lt k (Nat.lt_succ_of_lt hk)]
      exact allocVec_objs_ne h v k (Nat.ne_of_lt hk)
    · rw [ih.ids, allocVec_next, allocVec_id]
      simp [List.range'_succ]
    · rw [List.filterMap_cons, allocVec_id, show vecOf _ h.next = some v by simp [vecOf, obj, hnew], ih.shows]
    · by_cases ek : k = h.next
      · exact ⟨v, List.mem_cons_self, ek ▸ hnew⟩
      · obtain ⟨x, hx, hk⟩ := ih.new k (Nat.lt_of_le_of_ne h1 (Ne.symm ek))
          (by rw [allocVec_next, Nat.add_assoc, Nat.add_comm 1]; exact h2)
        exact ⟨x, List.mem_cons_of_mem _ hx, hk⟩

theorem alloc_roots (h : Heap) (a : AbsVal) : (h.alloc a).1.roots = h.roots := by
  cases a with
  | vec v => rfl
  | tab cols => exact allocVecs_roots h cols

theorem root_derive (h : Heap) (dst : Nat) (val : AbsVal) (r : Nat) :
    (step fpOf h (.derive dst val)).root r = if r = dst then some (h.alloc val).2 else h.root r := by
  simp only [step, root, upd, alloc_roots]

theorem alloc_spec (h : Heap) (a : AbsVal) (wf : WF h) :
    WF (h.alloc a).1 ∧
    h.next ≤ (h.alloc a).2 ∧ (h.alloc a).2 < (h.alloc a).1.next ∧
    (∀ k, k < h.next → (h.alloc a).1.objs k = h.objs k) ∧
    (h.alloc a).1.abs (h.alloc a).2 = some a := by
  cases a with
  | vec v =>
    exact ⟨allocVec_wf h v wf, Nat.le_refl _, Nat.lt_succ_self _, fun k hk => allocVec_objs_ne h v k (Nat.ne_of_lt hk),
      by simp [alloc, abs, obj, allocVec]⟩
  | tab cols =>
    have wf1 := allocVecs_wf h cols wf
    obtain ⟨hnext, hold, hids, hshows, hnew⟩ := allocVecs_spec h cols
    simp only [alloc]
    generalize h.allocVecs cols = p at wf1 hnext hold hids hshows hnew
    obtain ⟨h1, os⟩ := p
    simp only at wf1 hnext hold hids hshows hnew ⊢
    have hos : ∀ c ∈ os, h.next ≤ c ∧ c < h1.next := by
      intro c hc
      have hm := List.mem_range'_1.mp (hids ▸ hc)
      exact ⟨hm.1, hnext ▸ hm.2⟩
    -- a table of `h1` lives below `h.next`, and so do its columns
    have old : ∀ o cs, h1.objs o = some (.tab cs) → ∀ y ∈ cs, y < h.next := by
      intro o cs ho y hy
      have ho_lt : o < h.next := Nat.lt_of_not_le fun l => by
        obtain ⟨z, _, hz⟩ := hnew o l (hnext ▸ wf1.lt_of_some ho)
        cases hz.symm.trans ho
      rw [hold o ho_lt] at ho
      exact wf.columnsOf_lt (mem_columnsOf.mpr ⟨cs, ho, hy⟩)
    have hle : h.next ≤ h1.next := hnext ▸ Nat.le_add_right _ _
    refine ⟨?_, hle, Nat.lt_succ_self _, fun k hk => ?_, ?_⟩
    · refine wf1.put_tab (Nat.le_succ _) (Nat.lt_succ_self _) ?_ ?_ ?_ ?_
      · -- the id of the new table is unused, in particular no vector
        intro v fp e
        rw [wf1.fresh _ (Nat.le_refl _)] at e
        cases e
      · -- its columns are the vector objects just allocated
        intro x hx
        obtain ⟨z, _, hz⟩ := hnew x (hos x hx).1 (hnext ▸ (hos x hx).2)
        exact ⟨z, none, hz⟩
      · rw [hids]
        exact List.nodup_range'
      · -- and no old table holds one of them: its columns are `< h.next`
        intro o cs x _ ho hx hm
        exact Nat.lt_irrefl _ (Nat.lt_of_lt_of_le (old o cs ho x hx) (hos x hm).1)
    · show upd h1.objs h1.next _ k = _
      rw [upd_ne _ _ _ _ (Nat.ne_of_lt (Nat.lt_of_lt_of_le hk hle))]
      exact hold k hk
    · simp only [abs, obj, upd_same]
      congr 2
      rw [← hshows]
      exact List.filterMap_congr fun x hx => vecOf_congr _ _ _ (upd_ne _ _ _ _ (Nat.ne_of_lt (hos x hx).2))

theorem columnsOf_alloc_ge (h : Heap) (a : AbsVal) :
    ∀ x ∈ (h.alloc a).1.columnsOf (h.alloc a).2, h.next ≤ x := by
  cases a with
  | vec v => simp [alloc, allocVec, columnsOf, obj]
  | tab cols =>
    simp only [alloc, columnsOf, obj, upd_same, (allocVecs_spec h cols).ids]
    exact fun x hx => (List.mem_range'_1.mp hx).1

theorem WF.set_root {h : Heap} (wf : WF h) (r : Nat) (x : Option Nat) (hx : ∀ o, x = some o → o < h.next) :
    WF { h with roots := upd h.roots r x } := by
  refine ⟨wf.fresh, fun r' o' hr => ?_, wf.cols_vec, wf.own, wf.nodup⟩
  simp only [upd] at hr
  split at hr
  · exact hx o' hr
  · exact wf.roots_lt r' o' hr

theorem setVec_wf (h : Heap) (o : Nat) (v : VecVal) (wf : WF h) : WF (h.setVec o v) :=
  setVec_cases h o v wf fun _ _ ho => wf.put_vec (Nat.le_refl _) (wf.lt_of_some ho) v none

theorem memo_wf (h : Heap) (oc : Nat) (wf : WF h) : WF (memo fpOf h oc) :=
  memo_cases fpOf h oc wf fun v _ ho => wf.put_vec (Nat.le_refl _) (wf.lt_of_some ho) v _

theorem step_wf (h : Heap) (op : HOp) (wf : WF h) : WF (step fpOf h op) := by
  refine step_cases fpOf h (P := fun _ h' => WF h') op
    (same := fun _ => wf)
    (derive := fun dst val => ?derive)
    (getCol := fun dst t j ot cols oc _ hcols hoc => ?getCol)
    (setAttr := fun t j src ot os cols sv oc v _ _ hcols _ hoc _ => ?setAttr)
    (mutate := fun _ v o _ => setVec_wf h o v wf)
    (tabMutate := fun _ vs _ cols _ _ => setVecs_induction cols vs h wf fun g o v _ => setVec_wf g o v)
    (drop := fun r => wf.set_root r none nofun)
    (fingerprint := fun _ cols => memo_foldl_induction fpOf (memo_wf fpOf) cols h wf)
  case derive =>
    obtain ⟨a, _, c, _⟩ := alloc_spec h val wf
    exact a.set_root _ _ fun o e => Option.some.inj e ▸ c
  case getCol =>
    exact wf.set_root _ _ fun o e =>
      Option.some.inj e ▸ wf.columnsOf_lt (mem_columnsOf.mpr ⟨cols, hcols, List.mem_of_getElem? hoc⟩)
  case setAttr =>
    -- allocate the copy, then swap it in: the copy is a vector that no table holds yet
    have hlt : ∀ {o cs y}, h.objs o = some (.tab cs) → y ∈ cs → y < h.next :=
      fun ho hy => wf.columnsOf_lt (mem_columnsOf.mpr ⟨_, ho, hy⟩)
    have tabs : ∀ {o cs}, (h.allocVec v).1.objs o = some (.tab cs) → h.objs o = some (.tab cs) := tab_of_upd_vec
    refine (allocVec_wf h _ wf).put_tab (Nat.le_refl _) (Nat.lt_succ_of_lt (wf.lt_of_some hcols)) ?_ ?_ ?_ ?_
    · -- `ot` is a table, no vector
      intro v' fp
      rw [wf.allocVec_objs _ hcols]
      simp
    · -- the new columns: the old ones, and the copy
      intro c hc
      rcases List.mem_or_eq_of_mem_set hc with hm | rfl
      · obtain ⟨x, f, hx⟩ := wf.cols_vec ot cols hcols c hm
        exact ⟨x, f, wf.allocVec_objs _ hx⟩
      · exact ⟨_, none, allocVec_new _ _⟩
    · exact nodup_set_of_not_mem cols j h.next (wf.nodup ot cols hcols) fun hm => Nat.lt_irrefl _ (hlt hcols hm)
    · -- another table holds none of them: not an old column (`own`), not the copy (its id is `h.next`)
      intro o cs c hne ho hc hm
      rcases List.mem_or_eq_of_mem_set hm with hm | rfl
      · exact hne (wf.own o ot cs cols c (tabs ho) hcols hc hm)
      · exact Nat.lt_irrefl _ (hlt (tabs ho) hc)

end Heap
end Serif
