/-
  A slice selects the progression `a + j·c`, `j < rangeLen a b c`, of its normalised triple (`sliceIndices_eq`); every selecting key
  returns `gather` at `selIndices`, which depend on the key and the length only (`getitem_sel`); a rectangular table selects rows by
  gathering the same positions in every column (`rowBranch_eq`).
  Same names elsewhere: `Assign.sliceIndices` is this model's `sliceTriple`, not its `sliceIndices`; `X.mapRes`, `X.gather`, `X.zipRes`
  (Model/Expr.lean) are other functions than `mapRes`, `gather`, `zipRes` here.
-/
import Serif.Model.Index
import Serif.Proofs.Util
namespace Serif.Index

variable {ν α β γ : Type}

theorem rangeList_eq_map (a c : Int) (k : Nat) : rangeList a c k = (List.range k).map fun (j : Nat) => a + j * c := by
  induction k generalizing a with
  | zero => rfl
  | succ k ih =>
    rw [rangeList, ih, List.range_succ_eq_map, List.map_cons, List.map_map]
    simp only [Int.natCast_zero, Int.zero_mul, Int.add_zero, List.cons.injEq, true_and]
    apply List.map_congr_left
    intro j _
    simp only [Function.comp, Int.natCast_succ, Int.add_mul, Int.one_mul]
    omega

theorem rangeList_length (a c : Int) (k : Nat) : (rangeList a c k).length = k := by
  simp [rangeList_eq_map]

theorem rangeLen_neg (a b : Int) {c : Int} (hc : c < 0) : rangeLen a b c = rangeLen (-a) (-b) (-c) := by
  unfold rangeLen
  have e : -b - -a - 1 = a - b - 1 := by omega
  simp only [gt_iff_lt, show ¬ 0 < c by omega, show 0 < -c by omega, if_false, if_true, Int.neg_lt_neg_iff, e]

theorem rangeLen_lt_iff (a b : Int) {c : Int} (hc : c ≠ 0) (j : Nat) :
    j < rangeLen a b c ↔ if 0 < c then a + j * c < b else b < a + j * c := by
  have pos : ∀ a b c : Int, 0 < c → (j < rangeLen a b c ↔ a + j * c < b) := by
    intro a b c hc
    unfold rangeLen
    simp only [gt_iff_lt, hc, if_true]
    split
    · rw [Int.lt_toNat, Int.lt_add_one_iff, Int.le_ediv_iff_mul_le hc]; omega
    · have : 0 ≤ (j : Int) * c := Int.mul_nonneg (Int.natCast_nonneg j) (Int.le_of_lt hc)
      omega
  split
  · next h => exact pos a b c h
  · have hn : c < 0 := by omega
    rw [rangeLen_neg a b hn, pos _ _ _ (Int.neg_pos_of_neg hn), Int.mul_neg]; omega

theorem rangeLen_one (a b : Int) : rangeLen a b 1 = (b - a).toNat := by
  unfold rangeLen
  simp only [show (1 : Int) > 0 by decide, if_true, Int.ediv_one]
  split <;> omega

theorem rangeLen_neg_one (a b : Int) : rangeLen a b (-1) = (a - b).toNat := by
  rw [rangeLen_neg a b (by decide), Int.neg_neg, rangeLen_one]
  congr 1
  omega

/-- the raw term of `sliceLength` (the closed formula of `typeutils.slice_length`, on a triple `a b c`) is `rangeLen a b c`; for the
    model function itself see `sliceLength_eq_count` -/
theorem sliceLength_eq_rangeLen (a b c : Int) (hc : c ≠ 0) :
    (max 0 (Int.fdiv (b - a + (c - (if c > 0 then 1 else -1))) c)).toNat = rangeLen a b c := by
  have pos : ∀ a b c : Int, 0 < c → (Int.fdiv (b - a + (c - 1)) c).toNat = rangeLen a b c := by
    intro a b c h
    rw [Int.fdiv_eq_ediv_of_nonneg _ (Int.le_of_lt h), Int.toNat_add_sub_one_ediv h]
    simp only [rangeLen, gt_iff_lt, h, if_true, Int.sub_pos]
  rw [show ∀ x : Int, (max 0 x).toNat = x.toNat by omega]
  by_cases h : c > 0
  · simpa only [h, if_true] using pos a b c h
  · -- both operands of the floor division negated: the positive case on the mirrored interval
    have hn : c < 0 := by omega
    rw [rangeLen_neg a b hn, ← pos _ _ _ (Int.neg_pos_of_neg hn), ← Int.neg_fdiv_neg]
    simp only [h, if_false]
    congr 2; omega

/-- `slice.indices` calls it with `lower` 0 or -1 and `upper` `n` or `n - 1` -/
theorem clamp_mem {n lower upper : Int} (hl : lower ≤ 0) (hu : n - 1 ≤ upper) (hlu : lower ≤ upper) (x : Int) :
    lower ≤ clamp n lower upper x ∧ clamp n lower upper x ≤ upper := by
  unfold clamp
  split <;> split <;> omega

theorem clamp_nat (x n : Nat) : clamp n 0 n x = (min x n : Nat) := by
  unfold clamp
  split <;> split <;> omega

theorem sliceTriple_bounds {n : Nat} {s : Slice} {a b c : Int} (h : sliceTriple n s = .ok (a, b, c)) :
    c ≠ 0 ∧ (0 < c → 0 ≤ a ∧ a ≤ n ∧ 0 ≤ b ∧ b ≤ n) ∧
    (c < 0 → -1 ≤ a ∧ a ≤ (n : Int) - 1 ∧ -1 ≤ b ∧ b ≤ (n : Int) - 1) := by
  unfold sliceTriple at h
  by_cases hc : s.step.getD 1 = 0
  · rw [if_pos hc] at h; cases h
  · rw [if_neg hc] at h
    cases h
    -- a member is its default, `lower` or `upper`, or a clamped value: either way between `lower` and `upper`
    have pos := clamp_mem (n := n) (lower := 0) (upper := n) (by omega) (by omega) (by omega)
    have neg := clamp_mem (n := n) (lower := -1) (upper := n - 1) (by omega) (by omega) (by omega)
    refine ⟨hc, fun hp => ?_, fun hn => ?_⟩
    · simp only [show ¬ s.step.getD 1 < 0 by omega, if_false]
      cases s.start <;> cases s.stop <;> simp [fun x => (pos x).1, fun x => (pos x).2]
    · simp only [hn, if_true]
      cases s.start <;> cases s.stop <;> simp [fun x => (neg x).1, fun x => (neg x).2] <;> omega

theorem sliceTriple_eq_error_iff {n : Nat} {s : Slice} : (∃ e, sliceTriple n s = .error e) ↔ s.step = some 0 := by
  unfold sliceTriple
  cases hs : s.step with
  | none => simp
  | some c => by_cases hc : c = 0 <;> simp [hc]

theorem sliceIndices_eq {n : Nat} {s : Slice} {a b c : Int} (ht : sliceTriple n s = .ok (a, b, c)) :
    sliceIndices n s = .ok ((List.range (rangeLen a b c)).map fun (j : Nat) => (a + j * c).toNat) := by
  unfold sliceIndices
  rw [ht]
  simp only [rangeList_eq_map, List.map_map]
  rfl

theorem sliceTriple_pos_lt {n : Nat} {s : Slice} {a b c : Int} (ht : sliceTriple n s = .ok (a, b, c)) {j : Nat}
    (hj : j < rangeLen a b c) : 0 ≤ a + j * c ∧ a + j * c < n := by
  obtain ⟨hc, hpos, hneg⟩ := sliceTriple_bounds ht
  have hlt := (rangeLen_lt_iff a b hc j).mp hj
  have hj0 : 0 ≤ (j : Int) := Int.natCast_nonneg j
  split at hlt
  · next hp =>
    have := hpos hp
    have : 0 ≤ (j : Int) * c := Int.mul_nonneg hj0 (Int.le_of_lt hp)
    omega
  · have hn : c < 0 := by omega
    have := hneg hn
    have : (j : Int) * c ≤ 0 := Int.mul_nonpos_of_nonneg_of_nonpos hj0 (Int.le_of_lt hn)
    omega

theorem sliceIndices_lt {n : Nat} {s : Slice} {idxs : List Nat} (hi : sliceIndices n s = .ok idxs) :
    ∀ i ∈ idxs, i < n := by
  intro i hmem
  cases ht : sliceTriple n s with
  | error e => simp [sliceIndices, ht] at hi
  | ok t =>
    obtain ⟨a, b, c⟩ := t
    rw [sliceIndices_eq ht] at hi
    cases hi
    obtain ⟨j, hj, rfl⟩ := List.mem_map.mp hmem
    have := sliceTriple_pos_lt ht (List.mem_range.mp hj)
    omega

theorem sliceIndices_length (n : Nat) (s : Slice) :
    rmap List.length (sliceIndices n s) = sliceCount n s := by
  unfold sliceIndices sliceCount
  cases sliceTriple n s with
  | error e => rfl
  | ok t =>
    obtain ⟨a, b, c⟩ := t
    simp [rmap, rangeList_length]

theorem sliceLength_eq_count (n : Nat) (s : Slice) : sliceLength n s = sliceCount n s := by
  unfold sliceLength sliceCount
  cases ht : sliceTriple n s with
  | error e => rfl
  | ok t =>
    obtain ⟨a, b, c⟩ := t
    simp only
    rw [sliceLength_eq_rangeLen a b c (sliceTriple_bounds ht).1]

theorem gather_nil {α : Type} (xs : List α) : gather xs [] = [] := rfl

theorem gather_cons (xs : List α) (i : Nat) (is : List Nat) (h : i < xs.length) :
    gather xs (i :: is) = xs[i] :: gather xs is := by
  simp [gather, List.getElem?_eq_getElem h]

theorem gather_length (xs : List α) (idxs : List Nat) (h : ∀ i ∈ idxs, i < xs.length) :
    (gather xs idxs).length = idxs.length :=
  List.length_filterMap_of_isSome (by simpa using h)

theorem gather_getElem? (xs : List α) (idxs : List Nat) (h : ∀ i ∈ idxs, i < xs.length) (k : Nat) :
    (gather xs idxs)[k]? = idxs[k]?.bind (xs[·]?) :=
  List.getElem?_filterMap_of_isSome (by simpa using h) k

theorem gather_map {α β : Type} (f : α → β) (xs : List α) (idxs : List Nat) :
    gather (xs.map f) idxs = (gather xs idxs).map f := by
  induction idxs with
  | nil => rfl
  | cons i is ih =>
    simp only [gather, List.filterMap_cons, List.getElem?_map] at ih ⊢
    cases xs[i]? <;> simp [ih]

theorem gather_reverse (xs : List α) (idxs : List Nat) : gather xs idxs.reverse = (gather xs idxs).reverse :=
  List.filterMap_reverse

/-- consecutive positions: Python's `xs[p : p + k]` -/
theorem gather_range' (xs : List α) (p k : Nat) : gather xs (List.range' p k) = (xs.drop p).take k :=
  List.filterMap_getElem?_range' xs p k

@[simp] theorem rmap_ok {α β : Type} (f : α → β) (a : α) : rmap f (.ok a) = .ok (f a) := rfl
@[simp] theorem rmap_error {α β : Type} (f : α → β) (e : Err) : rmap f (.error e : Res α) = .error e := rfl

theorem rmap_eq_ok {f : α → β} {r : Res α} {b : β} (h : rmap f r = .ok b) : ∃ a, r = .ok a ∧ f a = b := by
  cases r with
  | error e => cases h
  | ok a => exact ⟨a, rfl, Except.ok.inj h⟩

theorem rmap_rmap (f : α → β) (g : β → γ) (r : Res α) : rmap g (rmap f r) = rmap (g ∘ f) r := by
  cases r <;> rfl

@[simp] theorem mapRes_nil {α β : Type} (f : α → Res β) : mapRes f [] = .ok [] := rfl

theorem mapRes_eq_mapM (f : α → Res β) (xs : List α) : mapRes f xs = xs.mapM f := by
  induction xs with
  | nil => rfl
  | cons x xs ih =>
    rw [List.mapM_cons, ← ih, mapRes]
    cases f x with
    | error e => rfl
    | ok b => cases mapRes f xs <;> rfl

theorem mapRes_pure (g : α → β) (xs : List α) : mapRes (fun x => .ok (g x)) xs = .ok (xs.map g) :=
  mapRes_eq_mapM _ xs ▸ List.mapM_pure

theorem mapRes_congr {f g : α → Res β} {xs : List α} (h : ∀ x ∈ xs, f x = g x) :
    mapRes f xs = mapRes g xs := by
  rw [mapRes_eq_mapM, mapRes_eq_mapM, List.mapM_congr_left h]

/-- every element's result is the same `r`, seen through `g x` (a row selection: `r` the positions, `x` a column) -/
theorem mapRes_uniform (r : Res γ) (g : α → γ → β) (xs : List α) (hne : xs ≠ []) :
    mapRes (fun x => rmap (g x) r) xs = rmap (fun c => xs.map (fun x => g x c)) r := by
  cases r with
  | error e => cases xs with
    | nil => exact absurd rfl hne
    | cons x xs => simp [mapRes]
  | ok c => simpa using mapRes_pure (fun x => g x c) xs

section
variable {f : α → Res β} {xs : List α} {ys : List β}

theorem mapRes_eq_ok_iff : mapRes f xs = .ok ys ↔ xs.map f = ys.map .ok := by
  rw [mapRes_eq_mapM]; exact List.mapM_except_eq_ok_iff

theorem mapRes_ok_length (h : mapRes f xs = .ok ys) : ys.length = xs.length :=
  List.length_of_mapM_eq_ok (mapRes_eq_mapM f xs ▸ h)

theorem mapRes_ok_getElem? (h : mapRes f xs = .ok ys) {i : Nat} {x : α} (hx : xs[i]? = some x) :
    ∃ y, f x = .ok y ∧ ys[i]? = some y :=
  List.getElem?_of_mapM_eq_ok (mapRes_eq_mapM f xs ▸ h) hx

theorem mapRes_ok_mem (h : mapRes f xs = .ok ys) {y : β} (hy : y ∈ ys) : ∃ x ∈ xs, f x = .ok y := by
  have : Except.ok y ∈ xs.map f := mapRes_eq_ok_iff.mp h ▸ List.mem_map_of_mem hy
  simpa using this

theorem mapRes_error_of_mem {x : α} {e : Err} (hx : x ∈ xs) (hf : f x = .error e) : ∃ e', mapRes f xs = .error e' := by
  cases h : mapRes f xs with
  | error e' => exact ⟨e', rfl⟩
  | ok ys =>
    obtain ⟨i, hi⟩ := List.getElem?_of_mem hx
    obtain ⟨y, hy, _⟩ := mapRes_ok_getElem? h hi
    rw [hf] at hy; cases hy

end

-- binds its own types, `f` and `xs` on purpose: a stated theorem (DESIGN.md, "Stable names") stands outside the section above
theorem mapRes_ok_of_forall {α β : Type} {f : α → Res β} {xs : List α} (h : ∀ x ∈ xs, ∃ y, f x = .ok y) :
    ∃ ys, mapRes f xs = .ok ys :=
  mapRes_eq_mapM f xs ▸ List.mapM_eq_ok_of_forall h

theorem mapRes_map (g : α → β) (f : β → Res γ) (xs : List α) :
    mapRes f (xs.map g) = mapRes (fun a => f (g a)) xs := by
  rw [mapRes_eq_mapM, mapRes_eq_mapM, List.mapM_map]; rfl

theorem mapRes_rmap (f : α → Res β) (g : β → γ) (xs : List α) :
    mapRes (fun x => rmap g (f x)) xs = rmap (List.map g) (mapRes f xs) := by
  induction xs with
  | nil => rfl
  | cons x xs ih =>
    simp only [mapRes, ih]
    cases f x with
    | error e => rfl
    | ok y => cases mapRes f xs <;> rfl

@[simp] theorem ok?_ok {α : Type} (a : α) : ok? (.ok a : Res α) = some a := rfl
@[simp] theorem ok?_error {α : Type} (e : Err) : ok? (.error e : Res α) = none := rfl

theorem ok?_eq_some {r : Res α} {a : α} : ok? r = some a ↔ r = .ok a := by
  cases r <;> simp [ok?]

theorem ok?_rmap (f : α → β) (r : Res α) : ok? (rmap f r) = (ok? r).map f := by
  cases r <;> rfl

theorem zipRes_eq_mapRes (f : α → β → Res γ) (xs : List α) (ys : List β) :
    zipRes f xs ys = mapRes (fun p => f p.1 p.2) (xs.zip ys) := by
  induction xs generalizing ys with
  | nil => cases ys <;> rfl
  | cons x xs ih =>
    cases ys with
    | nil => rfl
    | cons y ys => simp only [zipRes, List.zip_cons_cons, mapRes, ih]

theorem zipRes_ok_length {f : α → β → Res γ} {xs : List α} {ys : List β} {zs : List γ}
    (hl : xs.length = ys.length) (h : zipRes f xs ys = .ok zs) : zs.length = xs.length := by
  rw [zipRes_eq_mapRes] at h
  simpa [hl] using mapRes_ok_length h

theorem zipRes_ok_getElem? {f : α → β → Res γ} {xs : List α} {ys : List β} {zs : List γ}
    (h : zipRes f xs ys = .ok zs) {i : Nat} {x : α} {y : β} (hx : xs[i]? = some x) (hy : ys[i]? = some y) :
    ∃ z, f x y = .ok z ∧ zs[i]? = some z := by
  rw [zipRes_eq_mapRes] at h
  exact mapRes_ok_getElem? h (List.getElem?_zip_eq_some (z := (x, y)).mpr ⟨hx, hy⟩)

theorem zipRes_ok_of_forall {f : α → β → Res γ} {xs : List α} {ys : List β}
    (h : ∀ (i : Nat) (x : α) (y : β), xs[i]? = some x → ys[i]? = some y → ∃ z, f x y = .ok z) : ∃ zs, zipRes f xs ys = .ok zs := by
  rw [zipRes_eq_mapRes]
  apply mapRes_ok_of_forall
  intro p hp
  obtain ⟨i, hi⟩ := List.getElem?_of_mem hp
  obtain ⟨hx, hy⟩ := List.getElem?_zip_eq_some.mp hi
  exact h i p.1 p.2 hx hy

theorem zipRes_error_of {α β γ : Type} {f : α → β → Res γ} {xs : List α} {ys : List β}
    {i : Nat} {x : α} {y : β} {e : Err} (hx : xs[i]? = some x) (hy : ys[i]? = some y) (hf : f x y = .error e) :
    ∃ e', zipRes f xs ys = .error e' := by
  cases hz : zipRes f xs ys with
  | error e' => exact ⟨e', rfl⟩
  | ok zs =>
    obtain ⟨z, hz', _⟩ := zipRes_ok_getElem? hz hx hy
    rw [hf] at hz'; cases hz'

theorem compare_vec_ok {cmp : α → β → Res Bool} {xs : List (Option α)} {ys : List (Option β)} {r : Vec ν Bool}
    (h : compare cmp xs (.vec ys) = .ok r) :
    xs.length = ys.length ∧ ∃ bs, zipRes (cmpPair cmp) xs ys = .ok bs ∧ r = boolVec bs := by
  simp only [compare] at h
  split at h
  · cases h
  · next hl =>
    obtain ⟨bs, hz, rfl⟩ := rmap_eq_ok h
    exact ⟨by omega, bs, hz, rfl⟩

theorem compare_scalar_ok {cmp : α → β → Res Bool} {xs : List (Option α)} {y : β} {r : Vec ν Bool}
    (h : compare cmp xs (.scalar y) = .ok r) : ∃ bs, mapRes (cmpScalar cmp y) xs = .ok bs ∧ r = boolVec bs := by
  obtain ⟨bs, hz, rfl⟩ := rmap_eq_ok h
  exact ⟨bs, hz, rfl⟩

theorem normIndex_lt {n : Nat} {i : Int} {k : Nat} (h : normIndex n i = .ok k) : k < n := by
  unfold normIndex at h
  split at h <;> split at h <;> simp only [Except.ok.injEq, reduceCtorEq] at h <;> omega

theorem normIndex_nat {n k : Nat} (h : k < n) : normIndex n k = .ok k := by
  simp [normIndex, h]

theorem normIndex_neg {n k : Nat} (h1 : 1 ≤ k) (h : k ≤ n) : normIndex n (-(k : Int)) = .ok (n - k) := by
  unfold normIndex
  have h0 : ¬ (0 : Int) ≤ -(k : Int) := by omega
  have h2 : (0 : Int) ≤ -(k : Int) + n := by omega
  simp only [h0, h2, if_false, if_true, Except.ok.injEq]
  omega

theorem normIndex_out_of_range {n : Nat} {i : Int} (h : (n : Int) ≤ i ∨ i < -(n : Int)) : normIndex n i = .error .index := by
  unfold normIndex
  rcases h with h | h
  · simp [show (0 : Int) ≤ i by omega, show ¬ i < n by omega]
  · simp [show ¬ (0 : Int) ≤ i by omega, show ¬ (0 : Int) ≤ i + n by omega]

theorem getIdx_of_norm {xs : List α} {i : Int} {k : Nat} (h : normIndex xs.length i = .ok k) :
    getIdx xs i = .ok (xs[k]'(normIndex_lt h)) := by
  unfold getIdx
  rw [h]
  simp [List.getElem?_eq_getElem (normIndex_lt h)]

theorem getIdx_of_norm_error {xs : List α} {i : Int} {e : Err} (h : normIndex xs.length i = .error e) :
    getIdx xs i = .error e := by
  unfold getIdx; rw [h]

theorem elemGet_of_norm_error {xs : List α} {e : KElem} {err : Err}
    (h : normElem xs.length e = .error err) : elemGet xs e = .error err := by
  unfold normElem at h; unfold elemGet
  cases he : e.asInt? with
  | none => rw [he] at h; simpa using h
  | some i => rw [he] at h; exact getIdx_of_norm_error h

theorem normElem_lt {n : Nat} {e : KElem} {k : Nat} (h : normElem n e = .ok k) : k < n := by
  unfold normElem at h
  split at h
  · exact normIndex_lt h
  · cases h

theorem elemGet_of_norm {xs : List α} {e : KElem} {k : Nat}
    (h : normElem xs.length e = .ok k) : elemGet xs e = .ok (xs[k]'(normElem_lt h)) := by
  unfold normElem at h; unfold elemGet
  cases he : e.asInt? with
  | none => rw [he] at h; cases h
  | some i => rw [he] at h; exact getIdx_of_norm h

theorem mapRes_elemGet (xs : List α) (es : List KElem) :
    mapRes (elemGet xs) es = rmap (gather xs) (mapRes (normElem xs.length) es) := by
  induction es with
  | nil => rfl
  | cons e es ih =>
    simp only [mapRes, ih]
    cases h : normElem xs.length e with
    | error err => rw [elemGet_of_norm_error h]; rfl
    | ok k =>
      rw [elemGet_of_norm h]
      cases mapRes (normElem xs.length) es with
      | error err => rfl
      | ok ks => simp [gather_cons xs k ks (normElem_lt h)]

theorem maskSel_eq_filter (xs : List α) (ms : List Bool) :
    maskSel xs ms = ((xs.zip ms).filter (·.2)).map (·.1) := by
  induction xs generalizing ms with
  | nil => simp [maskSel]
  | cons x xs ih =>
    cases ms with
    | nil => simp [maskSel]
    | cons m ms => cases m <;> simp [maskSel, ih]

theorem maskSel_sublist (xs : List α) (ms : List Bool) : (maskSel xs ms).Sublist xs := by
  induction xs generalizing ms with
  | nil => cases ms <;> exact .slnil
  | cons x xs ih =>
    cases ms with
    | nil => exact List.nil_sublist _
    | cons m ms =>
      cases m
      · exact (ih ms).cons x
      · exact (ih ms).cons_cons x

theorem maskIdxFrom_succ (k : Nat) (ms : List Bool) : maskIdxFrom (k + 1) ms = (maskIdxFrom k ms).map (· + 1) := by
  induction ms generalizing k with
  | nil => rfl
  | cons m ms ih => cases m <;> simp [maskIdxFrom, ih]

theorem maskIdxFrom_mem {k i : Nat} {ms : List Bool} (h : i ∈ maskIdxFrom k ms) : k ≤ i ∧ i < k + ms.length := by
  induction ms generalizing k with
  | nil => cases h
  | cons m ms ih =>
    have tail : i ∈ maskIdxFrom (k + 1) ms → k ≤ i ∧ i < k + (m :: ms).length := fun h' => by
      have := ih h'
      rw [List.length_cons]; omega
    cases m with
    | false => exact tail h
    | true =>
      rcases List.mem_cons.mp h with rfl | h'
      · rw [List.length_cons]; omega
      · exact tail h'

theorem gather_cons_map_succ (x : α) (xs : List α) (is : List Nat) :
    gather (x :: xs) (is.map (· + 1)) = gather xs is := by
  simp [gather, List.filterMap_map, Function.comp_def]

theorem maskSel_eq_gather (xs : List α) (ms : List Bool) : maskSel xs ms = gather xs (maskIdxFrom 0 ms) := by
  induction xs generalizing ms with
  | nil => cases ms <;> simp [maskSel, gather]
  | cons x xs ih =>
    cases ms with
    | nil => rfl
    | cons m ms =>
      cases m
      · simp only [maskSel, maskIdxFrom, Bool.false_eq_true, if_false, maskIdxFrom_succ, gather_cons_map_succ, ih]
      · simp only [maskSel, maskIdxFrom, if_true, maskIdxFrom_succ]
        rw [gather_cons _ _ _ (by simp), gather_cons_map_succ, ih]; rfl

theorem maskGet_eq_gather (v : Vec ν α) (ms : List Bool) :
    maskGet v ms = rmap (fun idxs => .vec (copyWith v (gather v.data idxs)))
      (if v.data.length ≠ ms.length then .error .value else .ok (maskIdxFrom 0 ms)) := by
  unfold maskGet
  split
  · rfl
  · rw [maskSel_eq_gather]; rfl

theorem maskGet_of_length {v : Vec ν α} {ms : List Bool} (hl : v.data.length = ms.length) :
    maskGet v ms = .ok (.vec (copyWith v (maskSel v.data ms))) :=
  if_neg (not_not_intro hl)

theorem maskGet_length_ne {v : Vec ν α} {ms : List Bool} (hl : v.data.length ≠ ms.length) : maskGet v ms = .error .value :=
  if_pos hl

theorem intsGet_eq_gather (v : Vec ν α) (es : List KElem) :
    intsGet v es = rmap (fun idxs => .vec (copyWith v (gather v.data idxs))) (mapRes (normElem v.data.length) es) := by
  unfold intsGet
  rw [mapRes_elemGet, rmap_rmap]; rfl

theorem getitem_sel (v : Vec ν α) (k : Key) (hk : k.isSel = true) :
    getitem v k = rmap (fun idxs => .vec (copyWith v (gather v.data idxs))) (selIndices v.data.length k) := by
  cases k with
  | int i => cases hk
  | tuple1 k => cases hk
  | tupleN n => cases hk
  | other => rfl
  | slice s =>
    simp only [getitem, selIndices]
    cases sliceIndices v.data.length s <;> rfl
  | vec dt es =>
    cases dt with
    | none => rfl
    | some d =>
      -- each branch is a gather; `rmap` goes through the `if`s
      simp only [getitem, selIndices, maskGet_eq_gather, intsGet_eq_gather, List.length_map, apply_ite (rmap _),
        rmap_error]
  | list es =>
    simp only [getitem, selIndices, maskGet_eq_gather, intsGet_eq_gather, List.length_map, apply_ite (rmap _),
      rmap_error]

theorem selVec_eq_gather (v : Vec ν α) (k : Key) (hk : k.isSel = true) :
    selVec v k = rmap (fun idxs => copyWith v (gather v.data idxs)) (selIndices v.data.length k) := by
  unfold selVec
  rw [getitem_sel v k hk]
  cases selIndices v.data.length k <;> rfl

theorem selIndices_lt {n : Nat} {k : Key} {idxs : List Nat} (h : selIndices n k = .ok idxs) : ∀ i ∈ idxs, i < n := by
  -- the Vector and the list branch: a mask of the right length, or integer subscripts
  have branches : ∀ {c1 c2 : Prop} [Decidable c1] [Decidable c2] {es : List KElem},
      (if c1 then (if n ≠ es.length then .error .value else .ok (maskIdxFrom 0 (es.map KElem.truthy)))
        else if c2 then mapRes (normElem n) es else .error .type) = Except.ok idxs → ∀ i ∈ idxs, i < n := by
    intro c1 c2 _ _ es h i hi
    split at h
    · split at h
      · cases h
      · cases h
        have := (maskIdxFrom_mem hi).2
        simp only [List.length_map] at this
        omega
    · split at h
      · obtain ⟨e, _, he⟩ := mapRes_ok_mem h hi
        exact normElem_lt he
      · cases h
  cases k with
  | int i => cases h
  | tuple1 k => cases h
  | tupleN n => cases h
  | other => cases h
  | slice s => exact sliceIndices_lt h
  | vec dt es =>
    cases dt with
    | none => cases h
    | some d => exact branches h
  | list es => exact branches h

theorem findCol_map (p : Nat → Option ν → Bool) (g : Vec ν α → Vec ν α) (hg : ∀ c, (g c).name = c.name)
    (i : Nat) (cols : List (Vec ν α)) : findCol p i (cols.map g) = (findCol p i cols).map g := by
  induction cols generalizing i with
  | nil => rfl
  | cons c cs ih =>
    simp only [List.map_cons, findCol, hg]
    split
    · rfl
    · exact ih (i + 1)

theorem findCol_mem {p : Nat → Option ν → Bool} {i : Nat} {cols : List (Vec ν α)} {c : Vec ν α}
    (h : findCol p i cols = some c) : c ∈ cols := by
  induction cols generalizing i with
  | nil => cases h
  | cons a as ih =>
    rw [findCol] at h
    split at h
    · cases h; exact List.mem_cons_self
    · exact List.mem_cons_of_mem _ (ih h)

theorem findCol_succ (p : Nat → Option ν → Bool) (i : Nat) (cols : List (Vec ν α)) :
    findCol p (i + 1) cols = findCol (fun j => p (j + 1)) i cols := by
  induction cols generalizing i with
  | nil => rfl
  | cons c cs ih => simp only [findCol, ih]

theorem findCol_some {p : Nat → Option ν → Bool} {i : Nat} {cols : List (Vec ν α)} {c : Vec ν α}
    (h : findCol p i cols = some c) : ∃ j, cols[j]? = some c ∧ p (i + j) c.name = true ∧
      ∀ j' c', j' < j → cols[j']? = some c' → p (i + j') c'.name = false := by
  induction cols generalizing p i with
  | nil => cases h
  | cons a as ih =>
    -- the tail is searched from `i + 1`: the same search from `i` with the test shifted by one
    simp only [findCol, findCol_succ] at h
    split at h
    · next hp =>
      cases h
      exact ⟨0, rfl, hp, fun j' c' hj => by omega⟩
    · next hp =>
      obtain ⟨j, hj, hpj, hmin⟩ := ih h
      refine ⟨j + 1, by simpa using hj, hpj, fun j' c' hlt hc' => ?_⟩
      cases j' with
      | zero =>
        cases hc'
        simpa using hp
      | succ j' => exact hmin j' c' (by omega) (by simpa using hc')

theorem findCol_none {p : Nat → Option ν → Bool} {i : Nat} {cols : List (Vec ν α)} :
    findCol p i cols = none ↔ ∀ j c, cols[j]? = some c → p (i + j) c.name = false := by
  induction cols generalizing p i with
  | nil => simp [findCol]
  | cons a as ih =>
    simp only [findCol, findCol_succ]
    split
    · next hp =>
      simp only [reduceCtorEq, false_iff]
      intro h
      simpa [hp] using h 0 a rfl
    · next hp =>
      rw [ih]
      refine ⟨fun h j c hc => ?_, fun h j c hc => h (j + 1) c (by simpa using hc)⟩
      cases j with
      | zero =>
        cases hc
        simpa using hp
      | succ j => exact h j c (by simpa using hc)

theorem resolve_map [DecidableEq ν] (ops : NameOps ν) (g : Vec ν α → Vec ν α)
    (hg : ∀ c, (g c).name = c.name) (cols : List (Vec ν α)) (key : ν) :
    resolve ops (cols.map g) key = rmap g (resolve ops cols key) := by
  unfold resolve
  rw [findCol_map _ g hg, findCol_map _ g hg]
  cases findCol (fun _ nm => nm == some key) 0 cols with
  | some c => rfl
  | none =>
    cases findCol (matchSan ops (ops.lower key)) 0 cols <;> rfl

theorem resolve_eq_ok_iff [DecidableEq ν] {ops : NameOps ν} {cols : List (Vec ν α)} {key : ν} {c : Vec ν α} :
    resolve ops cols key = .ok c ↔
      findCol (fun _ nm => nm == some key) 0 cols = some c ∨
      (findCol (fun _ nm => nm == some key) 0 cols = none ∧ findCol (matchSan ops (ops.lower key)) 0 cols = some c) := by
  unfold resolve
  cases findCol (fun _ nm => nm == some key) 0 cols with
  | some c1 => simp
  | none => cases findCol (matchSan ops (ops.lower key)) 0 cols <;> simp

theorem resolve_eq_error_iff [DecidableEq ν] {ops : NameOps ν} {cols : List (Vec ν α)} {key : ν} {e : Err} :
    resolve ops cols key = .error e ↔
      e = .key ∧ findCol (fun _ nm => nm == some key) 0 cols = none ∧ findCol (matchSan ops (ops.lower key)) 0 cols = none := by
  unfold resolve
  cases findCol (fun _ nm => nm == some key) 0 cols with
  | some c1 => simp
  | none => cases findCol (matchSan ops (ops.lower key)) 0 cols <;> simp [eq_comm]

theorem resolve_mem [DecidableEq ν] {ops : NameOps ν} {cols : List (Vec ν α)} {key : ν} {c : Vec ν α}
    (h : resolve ops cols key = .ok c) : c ∈ cols := by
  rcases resolve_eq_ok_iff.mp h with h1 | ⟨_, h1⟩
  · exact findCol_mem h1
  · exact findCol_mem h1

theorem selectNames_map [DecidableEq ν] (ops : NameOps ν) (g : Vec ν α → Vec ν α)
    (hg : ∀ c, (g c).name = c.name) (cols : List (Vec ν α)) (ks : List ν) :
    selectNames ops (cols.map g) ks = rmap (fun t => ⟨t.cols.map g⟩) (selectNames ops cols ks) := by
  unfold selectNames
  rw [mapRes_congr fun k _ => resolve_map ops g hg cols k, mapRes_rmap, rmap_rmap, rmap_rmap]
  rfl

theorem rowsel_eq {t : Tab ν α} {n : Nat} (hR : t.Rect n) (hne : t.cols ≠ []) (k : Key) (hk : k.isSel = true) :
    rowsel t k = rmap (fun idxs => gatherTab idxs t) (selIndices n k) := by
  unfold rowsel
  have : mapRes (fun c => selVec c k) t.cols
       = mapRes (fun c => rmap (fun idxs => gatherCol idxs c) (selIndices n k)) t.cols := by
    apply mapRes_congr
    intro c hc
    rw [selVec_eq_gather c k hk, hR c hc]; rfl
  rw [this, mapRes_uniform (selIndices n k) (fun c idxs => gatherCol idxs c) t.cols hne, rmap_rmap]
  rfl

theorem selVec_name {v c : Vec ν α} {k : Key} (hk : k.isSel = true) (h : selVec v k = .ok c) : c.name = v.name := by
  rw [selVec_eq_gather v k hk] at h
  obtain ⟨idxs, _, rfl⟩ := rmap_eq_ok h
  rfl

theorem rowsel_getElem? {t rs : Tab ν α} {k : Key} (hk : k.isSel = true) (h : rowsel t k = .ok rs)
    {j : Nat} {c : Vec ν α} (hc : rs.cols[j]? = some c) : ∃ c0, t.cols[j]? = some c0 ∧ c.name = c0.name := by
  obtain ⟨cs, hm, rfl⟩ := rmap_eq_ok h
  have hj : j < t.cols.length := by
    rw [← mapRes_ok_length hm]
    exact (List.getElem?_eq_some_iff.mp hc).1
  obtain ⟨c', hsel, hc'⟩ := mapRes_ok_getElem? hm (List.getElem?_eq_getElem hj)
  rw [show cs[j]? = some c from hc] at hc'; cases hc'
  exact ⟨_, List.getElem?_eq_getElem hj, selVec_name hk hsel⟩

theorem nrows_of_rect {t : Tab ν α} {n : Nat} (hR : t.Rect n) (hne : t.cols ≠ []) : t.nrows = n := by
  unfold Tab.nrows
  cases h : t.cols with
  | nil => exact absurd h hne
  | cons c cs => exact hR c (by rw [h]; exact List.mem_cons_self)

@[simp] theorem asTab_rmap_tab (r : Res (Tab ν α)) : asTab (rmap TItem.tab r) = r := by
  cases r <;> rfl

/-- the table's row branches, seen through `ok?`, are "gather the rows `tabSel n k` in every column".  `tabSel n k` is
    `ok? (selIndices n k)` except for integer *lists*, which `Table.__getitem__` does not take. -/
theorem rowBranch_eq [DecidableEq ν] (ops : NameOps ν) {t : Tab ν α} {n : Nat}
    (hR : t.Rect n) (hne : t.cols ≠ []) (k : Key) :
    ok? (asTab (getitemTab ops t (.row k))) = (tabSel n k).map (fun idxs => gatherTab idxs t) := by
  have rows : ∀ k : Key, k.isSel = true →
      ok? (rowsel t k) = (ok? (selIndices n k)).map (fun idxs => gatherTab idxs t) :=
    fun k hk => by rw [rowsel_eq hR hne k hk, ok?_rmap]
  -- the mask branch (Vector or list): the length assertion, then the key on every column
  have mask : ∀ (k : Key) (ms : List Bool) (len : Nat), k.isSel = true →
      selIndices n k = (if n ≠ len then .error .value else .ok (maskIdxFrom 0 ms)) →
      ok? (asTab (maskRows t k len))
        = (if n = len then some (maskIdxFrom 0 ms) else none).map (fun idxs => gatherTab idxs t) := by
    intro k ms len hk hsel
    unfold maskRows
    rw [nrows_of_rect hR hne]
    by_cases hn : n = len
    · rw [if_neg (by simpa using hn), asTab_rmap_tab, rows k hk, hsel, if_neg (by simpa using hn), if_pos hn]; rfl
    · rw [if_pos hn, if_neg hn]; rfl
  cases k with
  | int i =>
    simp only [getitemTab, tabSel, Option.map_none]
    cases mapRes (fun col => getIdx col.data i) t.cols <;> rfl
  | tuple1 k => rfl
  | tupleN m => rfl
  | other => rfl
  | slice s =>
    simp only [getitemTab, asTab_rmap_tab, tabSel]
    exact rows (.slice s) rfl
  | vec dt es =>
    cases dt with
    | none => rfl
    | some d =>
      dsimp only [getitemTab, tabSel]
      split
      · next h1 => exact mask _ _ _ rfl (by simp only [selIndices, if_pos h1])
      · next h1 =>
        split
        · next h2 =>
          rw [asTab_rmap_tab, rows _ rfl]
          simp only [selIndices, if_neg h1, if_pos h2]
        · rfl
  | list es =>
    dsimp only [getitemTab, tabSel]
    split
    · next h1 => exact mask _ _ _ rfl (by simp only [selIndices, if_pos h1])
    · rfl

theorem ok?_rowsThenCols [DecidableEq ν] (ops : NameOps ν) (t : Tab ν α) (k : Key) (ks : List ν) :
    ok? (rowsThenCols ops t k ks)
      = (ok? (asTab (getitemTab ops t (.row k)))).bind (fun t' => ok? (selectNames ops t'.cols ks)) := by
  unfold rowsThenCols
  cases asTab (getitemTab ops t (.row k)) with
  | error e => rfl
  | ok t' => exact congrArg ok? (asTab_rmap_tab (selectNames ops t'.cols ks))

theorem ok?_colsThenRows [DecidableEq ν] (ops : NameOps ν) (t : Tab ν α) (k : Key) (ks : List ν) :
    ok? (colsThenRows ops t k ks)
      = (ok? (selectNames ops t.cols ks)).bind (fun t' => ok? (asTab (getitemTab ops t' (.row k)))) := by
  unfold colsThenRows
  rw [show getitemTab ops t (.names ks) = rmap .tab (selectNames ops t.cols ks) from rfl, asTab_rmap_tab]
  cases selectNames ops t.cols ks <;> rfl

theorem truthy_bool_map (ms : List Bool) : (ms.map KElem.bool).map KElem.truthy = ms := by
  rw [List.map_map]; exact List.map_id'' (fun _ => rfl) ms

theorem all_isBool_map (ms : List Bool) : (ms.map KElem.bool).all KElem.isBool = true := by
  simp only [List.all_map, List.all_eq_true]
  intro _ _
  rfl

theorem getitem_boolList (v : Vec ν α) (ms : List Bool) (hne : ms ≠ []) :
    getitem v (.list (ms.map .bool)) = maskGet v ms := by
  simp only [getitem]
  rw [if_pos ⟨by simpa using hne, all_isBool_map ms⟩, truthy_bool_map]

theorem getitem_boolVec (v : Vec ν α) (ms : List Bool) :
    getitem v (.vec (some ⟨.bool, false⟩) (ms.map .bool)) = maskGet v ms := by
  simp only [getitem, and_self, if_true, truthy_bool_map]

end Serif.Index
