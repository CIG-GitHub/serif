/-
  Rectangularity as an invariant of the object heap (C02 over histories).

  `Proofs/Tab.lean` proves that each *pure* table function returns a rectangular table.  Here the claim is about live
  objects: in every heap reachable by a history whose writes keep lengths (which is what C08 `length_preserved` and the
  length checks of `Table.__init__` / `Table.__setattr__` give), every table object's columns are vector objects of one
  common length.
-/
import Serif.Proofs.ObjHeap

namespace Serif
namespace Heap

def lenOf (h : Heap) (o : Nat) : Option Nat :=
  match h.objs o with
  | some (.vec v _) => some v.data.length
  | _ => none

def RectHeap (h : Heap) : Prop :=
  ∀ ot cols, h.objs ot = some (.tab cols) → ∃ n, ∀ oc ∈ cols, h.lenOf oc = some n

/-- what the library checks before it accepts an operation, as far as lengths go -/
def LenOK (h : Heap) : HOp → Prop
  /- `Table.__init__` raises on ragged input (after fix 10d5e05 for every construction route) -/
  | .derive _ (.tab cols) => ∃ n, ∀ c ∈ cols, c.data.length = n
  /- `Table.__setattr__`: "length … != table length" is refused -/
  | .setAttr t j src => ∀ ot os cols sv oc, h.root t = some ot → h.root src = some os →
      h.obj ot = some (.tab cols) → h.vecOf os = some sv → cols[j]? = some oc → h.lenOf oc = some sv.data.length
  /- item assignment never changes the length (C08 `length_preserved`) -/
  | .mutate r v => ∀ o, h.root r = some o → ∀ n, h.lenOf o = some n → v.data.length = n
  | .tabMutate t vs => ∀ ot cols, h.root t = some ot → h.obj ot = some (.tab cols) →
      ∀ (i o : Nat) (v : VecVal), cols[i]? = some o → vs[i]? = some v → ∀ n, h.lenOf o = some n → v.data.length = n
  | _ => True

/-- `LenOK` along a whole history, each operation judged in the state it runs in -/
def LenOKRun (fpOf : VecVal → Int) (h : Heap) : List HOp → Prop
  | [] => True
  | op :: ops => LenOK h op ∧ LenOKRun fpOf (step fpOf h op) ops

variable (fpOf : VecVal → Int)

theorem lenOf_congr (h h' : Heap) (o : Nat) (e : h'.objs o = h.objs o) : h'.lenOf o = h.lenOf o := by
  simp [lenOf, e]

theorem lenOf_eq_some {h : Heap} {o n : Nat} : h.lenOf o = some n ↔ ∃ v fp, h.objs o = some (.vec v fp) ∧ v.data.length = n := by
  unfold lenOf
  cases h.objs o with
  | none => simp
  | some ob => cases ob <;> simp

theorem rect_put_vec {h : Heap} (r : RectHeap h) (o n : Nat) (v : VecVal) (fp : Option Int)
    (hv : ∀ m, h.lenOf o = some m → v.data.length = m) :
    RectHeap { h with objs := upd h.objs o (some (.vec v fp)), next := n } := by
  intro ot cols hot
  obtain ⟨m, hm⟩ := r ot cols (tab_of_upd_vec hot)
  refine ⟨m, fun oc hoc => ?_⟩
  by_cases e : oc = o
  · subst e; simp [lenOf, hv m (hm oc hoc)]
  · rw [lenOf_congr h _ _ (upd_ne _ _ _ _ e)]; exact hm oc hoc

theorem rect_put_tab {h : Heap} (r : RectHeap h) (t n : Nat) (cs : List Nat) (hnv : ∀ v fp, h.objs t ≠ some (.vec v fp))
    (hlen : ∃ m, ∀ c ∈ cs, h.lenOf c = some m) :
    RectHeap { h with objs := upd h.objs t (some (.tab cs)), next := n } := by
  intro ot cols hot
  -- the columns had a common length in `h`, and no length changes: a vector object is not `t`
  refine (?_ : ∃ m, ∀ c ∈ cols, h.lenOf c = some m).imp fun m hm c hc => ?_
  · rcases tab_of_upd_tab hot with ⟨_, rfl⟩ | ⟨_, hot⟩
    · exact hlen
    · exact r ot cols hot
  · obtain ⟨x, fp, hx, _⟩ := lenOf_eq_some.mp (hm c hc)
    exact (lenOf_congr h _ c (upd_ne _ _ _ _ fun (e : c = t) => hnv x fp (e ▸ hx))).trans (hm c hc)

theorem allocVec_rect (h : Heap) (v : VecVal) (wf : WF h) (r : RectHeap h) : RectHeap (h.allocVec v).1 :=
  rect_put_vec r h.next (h.next + 1) v none fun m hm => by simp [lenOf, wf.fresh _ (Nat.le_refl _)] at hm

theorem allocVecs_rect (h : Heap) (vs : List VecVal) (wf : WF h) (r : RectHeap h) : RectHeap (h.allocVecs vs).1 :=
  (allocVecs_induction (P := fun g => WF g ∧ RectHeap g) (fun g v ⟨w, r⟩ => ⟨allocVec_wf g v w, allocVec_rect g v w r⟩)
    vs h ⟨wf, r⟩).2

theorem setVec_lenOf (h : Heap) (w : Nat) (v : VecVal) (hv : ∀ n, h.lenOf w = some n → v.data.length = n)
    (o : Nat) : (h.setVec w v).lenOf o = h.lenOf o := by
  by_cases e : o = w
  · subst e
    exact setVec_cases (P := fun g => g.lenOf o = _) h o v rfl fun v0 fp hw => by
      simp [lenOf, hw, hv v0.data.length (by simp [lenOf, hw])]
  · exact lenOf_congr _ _ _ (setVec_objs_ne h w o v e)

theorem setVec_rect (h : Heap) (w : Nat) (v : VecVal) (r : RectHeap h) (hv : ∀ n, h.lenOf w = some n → v.data.length = n) :
    RectHeap (h.setVec w v) :=
  setVec_cases h w v r fun _ _ _ => rect_put_vec r w h.next v none hv

theorem setVecs_rect (h : Heap) (os : List Nat) (vs : List VecVal) (r : RectHeap h)
    (hv : ∀ (i o : Nat) (v : VecVal), os[i]? = some o → vs[i]? = some v → ∀ n, h.lenOf o = some n → v.data.length = n) :
    RectHeap (h.setVecs os vs) := by
  -- the invariant carries `lenOf` unchanged, so a column that occurs twice is no special case
  refine (setVecs_induction (P := fun g => RectHeap g ∧ ∀ o, g.lenOf o = h.lenOf o) os vs h ⟨r, fun _ => rfl⟩ ?_).1
  intro g w v hm ⟨rg, hg⟩
  obtain ⟨i, hi⟩ := List.mem_iff_getElem?.mp hm
  obtain ⟨h1, h2⟩ := List.getElem?_zip_eq_some.mp hi
  have hv' : ∀ n, g.lenOf w = some n → v.data.length = n := fun n hn => hv i w v h1 h2 n (hg w ▸ hn)
  exact ⟨setVec_rect g w v rg hv', fun o => (setVec_lenOf g w v hv' o).trans (hg o)⟩

theorem memo_rect (g : Heap) (c : Nat) (r : RectHeap g) : RectHeap (memo fpOf g c) :=
  memo_cases fpOf g c r fun v _ hc => rect_put_vec r c g.next v _ fun m hm => by simpa [lenOf, hc] using hm

theorem allocVecs_lenOf (h : Heap) (vs : List VecVal) (n : Nat) (hn : ∀ c ∈ vs, c.data.length = n) :
    ∀ o ∈ (h.allocVecs vs).2, (h.allocVecs vs).1.lenOf o = some n := by
  have sp := allocVecs_spec h vs
  intro o ho
  rw [sp.ids, List.mem_range'_1] at ho
  obtain ⟨x, hx, hk⟩ := sp.new o ho.1 ho.2
  simp [lenOf, hk, hn x hx]

theorem step_rect (h : Heap) (op : HOp) (wf : WF h) (r : RectHeap h) (ok : LenOK h op) :
    RectHeap (step fpOf h op) := by
  refine step_cases fpOf h (P := fun op h' => LenOK h op → RectHeap h') op
    (same := fun _ _ => r)
    (derive := fun dst val ok => ?derive)
    (getCol := fun _ _ _ _ _ _ _ _ _ _ => r)
    (setAttr := fun t j src ot os cols sv oc v hot hos hcols hsv hoc hv ok => ?setAttr)
    (mutate := fun x v o ho ok => setVec_rect h o v r (ok o ho))
    (tabMutate := fun t vs ot cols hot hcols ok => setVecs_rect h cols vs r (ok ot cols hot hcols))
    (drop := fun _ _ => r)
    (fingerprint := fun _ cols _ => memo_foldl_induction fpOf (memo_rect fpOf) cols h r) ok
  case derive =>
    cases val with
    | vec v => exact allocVec_rect h v wf r
    | tab cs =>
      obtain ⟨n, hn⟩ := ok
      exact rect_put_tab (allocVecs_rect h cs wf r) (h.allocVecs cs).1.next ((h.allocVecs cs).1.next + 1) (h.allocVecs cs).2
        (fun v fp => by simp [(allocVecs_wf h cs wf).fresh _ (Nat.le_refl _)]) ⟨n, allocVecs_lenOf h cs n hn⟩
  case setAttr =>
    have hlen : h.lenOf oc = some sv.data.length := ok ot os cols sv oc hot hos hcols hsv hoc
    obtain ⟨n, hn⟩ := r ot cols hcols
    have hnn : v.data.length = n := by
      rw [hv]
      exact Option.some.inj (hlen.symm.trans (hn oc (List.mem_of_getElem? hoc)))
    -- the copy has the common length, and allocating it changes no other length
    refine rect_put_tab (allocVec_rect h _ wf r) ot _ _ (fun v fp => ?_) ⟨n, fun c hc => ?_⟩
    · rw [wf.allocVec_objs _ hcols]; simp
    · rcases List.mem_or_eq_of_mem_set hc with hm | rfl
      · obtain ⟨x, fp, hx, _⟩ := lenOf_eq_some.mp (hn c hm)
        exact (lenOf_congr h _ c ((wf.allocVec_objs _ hx).trans hx.symm)).trans (hn c hm)
      · simp [lenOf, allocVec_new, hnn]

theorem abs_rect (h : Heap) (r : RectHeap h) (o : Nat) (cols : List VecVal) (ha : h.abs o = some (.tab cols)) :
    ∃ n, ∀ c ∈ cols, c.data.length = n := by
  unfold abs obj at ha
  cases ho : h.objs o with
  | none => simp [ho] at ha
  | some ob =>
    cases ob with
    | vec v fp => simp [ho] at ha
    | tab cs =>
      simp only [ho, Option.some.injEq, AbsVal.tab.injEq] at ha
      obtain ⟨n, hn⟩ := r o cs ho
      refine ⟨n, fun c hc => ?_⟩
      obtain ⟨oc, hoc, hv⟩ := List.mem_filterMap.mp (ha ▸ hc)
      obtain ⟨v, fp, hobj, hl⟩ := lenOf_eq_some.mp (hn oc hoc)
      simp only [vecOf, obj, hobj, Option.some.injEq] at hv
      exact hv ▸ hl

theorem rect_empty : RectHeap empty := by
  intro ot cols h; simp [empty] at h

theorem run_rect (ops : List HOp) (h : Heap) (wf : WF h) (r : RectHeap h)
    (ok : LenOKRun fpOf h ops) : RectHeap (run fpOf h ops) := by
  induction ops generalizing h with
  | nil => exact r
  | cons op ops ih =>
    exact ih (step fpOf h op) (step_wf fpOf h op wf) (step_rect fpOf h op wf r ok.1) ok.2

end Heap
end Serif
