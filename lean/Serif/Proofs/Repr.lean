/- Lemmas of the repr model (Serif/Model/Repr.lean), in the model's order, for Props/C20 and the three repr ties. -/
import Serif.Model.Repr
import Serif.Proofs.Util

namespace Serif.Repr

theorem mapRes_eq_mapM {α β : Type} (f : α → Res β) (l : List α) : mapRes f l = l.mapM f := by
  induction l with
  | nil => rfl
  | cons a r ih =>
    rw [List.mapM_cons, ← ih, mapRes]
    cases f a with
    | error e => rfl
    | ok b => cases mapRes f r <;> rfl

theorem mapRes_ok_length {α β : Type} {f : α → Res β} {l : List α} {bs : List β}
    (h : mapRes f l = .ok bs) : bs.length = l.length :=
  List.length_of_mapM_eq_ok (mapRes_eq_mapM f l ▸ h)

theorem mapRes_ok_getElem? {α β : Type} {f : α → Res β} {l : List α} {bs : List β}
    (h : mapRes f l = .ok bs) {i : Nat} {a : α} (ha : l[i]? = some a) :
    ∃ b, f a = .ok b ∧ bs[i]? = some b :=
  List.getElem?_of_mapM_eq_ok (mapRes_eq_mapM f l ▸ h) ha

theorem mapRes_total {α β : Type} {f : α → Res β} {l : List α}
    (h : ∀ a ∈ l, ∃ b, f a = .ok b) : ∃ bs, mapRes f l = .ok bs :=
  mapRes_eq_mapM f l ▸ List.mapM_eq_ok_of_forall h

theorem shownCells_map_cell {α : Type} (l : List α) : shownCells (l.map Shown.cell) = l := by
  induction l with
  | nil => rfl
  | cons a r ih => simp [shownCells, ih]

theorem shownCells_append {α : Type} (a b : List (Shown α)) :
    shownCells (a ++ b) = shownCells a ++ shownCells b := by
  induction a with
  | nil => rfl
  | cons x r ih => cases x <;> simp [shownCells, ih]

theorem length_take_map_cell {α : Type} {k : Nat} {xs : List α} (h : xs.length > 2 * k) :
    ((xs.take k).map Shown.cell).length = k := by
  rw [List.length_map, List.length_take_of_le (by omega)]

theorem cell_mem_preview {α : Type} {k : Nat} {xs : List α} {a : α} (h : Shown.cell a ∈ preview k xs) : a ∈ xs := by
  unfold preview at h
  split at h
  · simp only [List.append_assoc, List.mem_append, List.mem_map, List.mem_cons, List.not_mem_nil, or_false,
      Shown.cell.injEq, exists_eq_right, reduceCtorEq, false_or] at h
    exact h.elim List.mem_of_mem_take List.mem_of_mem_drop
  · simpa using h

/-- on a number the guard keeps `int(v)` away from nan and ±inf, so the test never raises -/
theorem isWhole_of_num {c : Cell} {n : NumClass} (h : c.num = some n) :
    isWhole c = .ok (decide (n = .finiteIntegral)) := by
  unfold isWhole
  rw [h]
  cases n <;> rfl

theorem need_total (o : Option String) (h : o.isSome = true) : ∃ s, need o = .ok s := by
  cases o with
  | none => simp at h
  | some s => exact ⟨s, rfl⟩

theorem fmtCell_float {c : Cell} {n : NumClass} (he : c.eqEllipsis = false) (hn : c.isNone = false)
    (hnum : c.num = some n) :
    fmtCell (some .float) c = need (if n = .finiteIntegral then c.f1 else c.g) := by
  simp only [fmtCell, he, hn, Bool.false_eq_true, if_false, isWhole_of_num hnum, bind, Except.bind,
    decide_eq_true_eq]
  split <;> rfl

theorem fmtCell_total (kind : Option Kind) (c : Cell) (h : c.formattable kind = true) :
    ∃ s, fmtCell kind c = .ok s := by
  cases he : c.eqEllipsis
  · cases hn : c.isNone
    · -- a value: `formattable` asks for exactly the texts the rule of the column's kind needs
      simp only [Cell.formattable, he, hn, Bool.false_or] at h
      split at h
      · simp only [Bool.and_eq_true] at h
        obtain ⟨n, hnum⟩ := Option.isSome_iff_exists.mp h.1.1
        rw [fmtCell_float he hn hnum]
        exact need_total _ (by split <;> simp [h.1.2, h.2])
      · obtain ⟨s, hs⟩ := need_total c.iso h
        exact ⟨s, by simp [fmtCell, he, hn, hs]⟩
      · rename_i hf hd
        unfold fmtCell
        simp only [he, hn, Bool.false_eq_true, if_false]
        split
        · exact (hf rfl).elim
        · exact ⟨_, rfl⟩
        · exact (hd rfl).elim
        · exact ⟨_, rfl⟩
        · split <;> exact ⟨_, rfl⟩
    · exact ⟨"None", by simp [fmtCell, he, hn]⟩
  · exact ⟨"...", by simp [fmtCell, he]⟩

theorem fmtShown_total (kind : Option Kind) (s : Shown Cell)
    (h : ∀ c, s = .cell c → c.formattable kind = true) : ∃ t, fmtShown kind s = .ok t := by
  cases s with
  | ellipsis => exact ⟨"...", rfl⟩
  | cell c => exact fmtCell_total kind c (h c rfl)

theorem formatColumn_total (k : Nat) (col : Col)
    (h : ∀ c ∈ col.cells, c.formattable (col.dtype.map (·.kind)) = true) :
    ∃ ls, formatColumn k col = .ok ls := by
  unfold formatColumn
  apply mapRes_total
  intro s hs
  apply fmtShown_total
  rintro c rfl
  exact h c (cell_mem_preview hs)

theorem formatColumn_length (k : Nat) (col : Col) (ls : List String)
    (h : formatColumn k col = .ok ls) : ls.length = (preview k col.cells).length :=
  mapRes_ok_length h

/-- the dtype token as the source spells it out (four times) -/
theorem dtypeText_eq_match (otherName : Nat → String) (dt : Option DType) :
    dtypeText otherName dt = (match dt with
      | some d => if d.nullable = true then kindName otherName d.kind ++ "?" else kindName otherName d.kind
      | none => "object") := by
  cases dt with
  | none => rfl
  | some d => cases h : d.nullable <;> simp [dtypeText, h]

/-- left inverse of `kindName` on the built-in kinds (`kindName_builtin`): what `dtype_token_injective` reads the kind back with -/
def kindOfName (s : String) : Kind :=
  if s = "bool" then .bool else if s = "int" then .int else if s = "float" then .float
  else if s = "complex" then .complex else if s = "str" then .str else if s = "bytes" then .bytes
  else if s = "date" then .date else if s = "datetime" then .datetime else if s = "list" then .list
  else if s = "dict" then .dict else if s = "tuple" then .tuple else .object

theorem kindName_builtin (otherName : Nat → String) (k : Kind) (hk : ∀ n, k ≠ .other n) :
    kindOfName (kindName otherName k) = k ∧ '?' ∉ (kindName otherName k).toList := by
  cases k
  case other n => exact absurd rfl (hk n)
  all_goals (simp only [kindName]; decide +kernel)

/-- the `?` suffix can be read off a token whose kind name holds no `?` -/
theorem dtypeText_some_inj (otherName : Nat → String) {d₁ d₂ : DType}
    (hq₁ : '?' ∉ (kindName otherName d₁.kind).toList) (hq₂ : '?' ∉ (kindName otherName d₂.kind).toList)
    (h : dtypeText otherName (some d₁) = dtypeText otherName (some d₂)) :
    kindName otherName d₁.kind = kindName otherName d₂.kind ∧ d₁.nullable = d₂.nullable := by
  have hmixed : ∀ a b : String, '?' ∉ b.toList → a ++ "?" ≠ b := by
    rintro a b hb rfl
    simp at hb
  simp only [dtypeText] at h
  cases h₁ : d₁.nullable <;> cases h₂ : d₂.nullable <;>
    simp only [h₁, h₂, if_true, if_false, Bool.false_eq_true, String.append_empty] at h
  · exact ⟨h, rfl⟩
  · exact absurd h.symm (hmixed _ _ hq₁)
  · exact absurd h (hmixed _ _ hq₂)
  · exact ⟨(String.append_left_inj _).mp h, rfl⟩

theorem mem_shownIdx {m n j : Nat} :
    j ∈ shownIdx m n ↔ j < n ∧ (n ≤ m * 2 ∨ j < m ∨ n ≤ j + m) := by
  unfold shownIdx
  split
  · rename_i h
    -- `n = q + m`: the tail indices are `q, …, q + m - 1`; without the subtraction the inequalities below are single `Nat`
    -- lemmas (`omega` on the goals with `n - m` is several times dearer to check)
    obtain ⟨q, rfl⟩ : ∃ q, n = q + m := ⟨n - m, (Nat.sub_add_cancel (by omega)).symm⟩
    simp only [Nat.add_sub_cancel, List.mem_append, List.mem_range, List.mem_map]
    constructor
    · rintro (h1 | ⟨a, ha, rfl⟩)
      · exact ⟨Nat.lt_add_left q h1, .inr (.inl h1)⟩
      · have hlt : a + q < q + m := Nat.add_comm a q ▸ Nat.add_lt_add_left ha q
        have hge : q + m ≤ a + q + m := Nat.add_le_add_right (Nat.le_add_left q a) m
        exact ⟨hlt, .inr (.inr hge)⟩
    · rintro ⟨h1, h2⟩
      by_cases hj : j < m
      · exact .inl hj
      · have hq : q ≤ j := by omega
        exact .inr ⟨j - q, Nat.sub_lt_left_of_lt_add hq h1, Nat.sub_add_cancel hq⟩
  · rename_i h
    rw [List.mem_range]
    exact ⟨fun h1 => ⟨h1, .inl (Nat.not_lt.mp h)⟩, And.left⟩

theorem mem_of_mem_shownCols {α : Type} {m : Nat} {l : List α} {a : α} (h : a ∈ shownCols m l) : a ∈ l := by
  unfold shownCols at h
  split at h
  · rcases List.mem_append.mp h with h | h
    · exact List.mem_of_mem_take h
    · exact List.mem_of_mem_drop h
  · exact h

theorem shownCols_getElem?_zero {α : Type} {m : Nat} (hm : m > 0) (l : List α) : (shownCols m l)[0]? = l[0]? := by
  unfold shownCols
  split
  · rw [List.getElem?_append_left (by rw [List.length_take]; omega), List.getElem?_take_of_lt hm]
  · rfl

/-- `col_indices` of `_repr_table` as the source computes it, `rng` being `list(range(a, b))`: a variable, because
    `Gen.TRB.pyRange` and `Gen.TF.pyRange` are two generated copies and this serves both ties, which may not import each other -/
theorem colIndices_eq (rng : Nat → Nat → List Nat) (hr : ∀ a b, rng a b = (List.range (b - a)).map (· + a))
    (m n : Nat) :
    (if decide (n > m * 2) = true then List.range m ++ rng (n - m) n else List.range n) = shownIdx m n := by
  simp only [shownIdx, decide_eq_true_eq, hr]
  split
  · rw [Nat.sub_sub_self (by omega)]
  · rfl

/-- `[cols[i] for i in col_indices]` are the displayed columns -/
theorem shownIdx_filterMap {α : Type} (m : Nat) (cols : List α) :
    (shownIdx m cols.length).filterMap (fun i => cols[i]?) = shownCols m cols := by
  unfold shownIdx shownCols
  split
  · have e : (List.range m).map (· + (cols.length - m)) = List.range' (cols.length - m) m := by
      apply List.ext_getElem
      · simp
      · intro i h1 h2
        simp
        omega
    rw [List.filterMap_append, e, List.range_eq_range', List.filterMap_getElem?_range' cols 0 m,
      List.filterMap_getElem?_range' cols (cols.length - m) m, List.drop_zero,
      List.take_of_length_le (l := cols.drop (cols.length - m)) (by rw [List.length_drop]; omega)]
  · rw [List.range_eq_range', List.filterMap_getElem?_range' cols 0 cols.length]
    simp

theorem mem_insertAt {α : Type} {m : Nat} {x a : α} {l : List α} : a ∈ insertAt m x l ↔ a = x ∨ a ∈ l := by
  conv => rhs; rw [← List.take_append_drop m l]
  simp only [insertAt, List.mem_append, List.mem_cons]
  exact or_left_comm

theorem length_insertAt {α : Type} (m : Nat) (x : α) (l : List α) : (insertAt m x l).length = l.length + 1 := by
  simp only [insertAt, List.length_append, List.length_take, List.length_cons, List.length_drop]
  omega

theorem filter_insertAt_ellipsis (m : Nat) (l : List String) :
    (insertAt m "..." l).filter (· != "...") = l.filter (· != "...") := by
  unfold insertAt
  rw [List.filter_append, List.filter_cons]
  simp only [bne_self_eq_false, Bool.false_eq_true, if_false]
  rw [← List.filter_append, List.take_append_drop]

theorem heterogeneous_iff (l : List String) :
    heterogeneous l = true ↔ ∃ a ∈ l, ∃ b ∈ l, a ≠ b := by
  cases l with
  | nil => simp [heterogeneous]
  | cons x r =>
    simp only [heterogeneous, List.any_eq_true, bne_iff_ne, ne_eq]
    constructor
    · rintro ⟨y, hy, hne⟩
      exact ⟨y, List.mem_cons_of_mem _ hy, x, List.mem_cons_self, hne⟩
    · rintro ⟨a, ha, b, hb, hne⟩
      by_cases hax : a = x
      · subst hax
        rcases List.mem_cons.mp hb with rfl | hb'
        · exact absurd rfl hne
        · exact ⟨b, hb', fun h => hne h.symm⟩
      · rcases List.mem_cons.mp ha with rfl | ha'
        · exact absurd rfl hax
        · exact ⟨a, ha', hax⟩

/-- `f c` for the columns `c` whose position, counted from `i`, satisfies `p`: what `hdrLoop` appends to each of its
    lists (`hdrLoop_fields`) -/
def pick {β : Type} (p : Nat → Bool) (f : Col → β) : Nat → List Col → List β
  | _, [] => []
  | i, c :: r => (if p i then [f c] else []) ++ pick p f (i + 1) r

theorem pick_append {β : Type} (p : Nat → Bool) (f : Col → β) (i : Nat) (a b : List Col) :
    pick p f i (a ++ b) = pick p f i a ++ pick p f (i + a.length) b := by
  induction a generalizing i with
  | nil => simp [pick]
  | cons c r ih =>
    simp only [List.cons_append, pick, ih, List.length_cons, List.append_assoc]
    congr 3
    omega

theorem pick_const {β : Type} (p : Nat → Bool) (f : Col → β) (b : Bool) (i : Nat) (l : List Col)
    (h : ∀ j, i ≤ j → j < i + l.length → p j = b) : pick p f i l = if b then l.map f else [] := by
  induction l generalizing i with
  | nil => cases b <;> rfl
  | cons c r ih =>
    have h0 : p i = b := h i (Nat.le_refl _) (by simp)
    have hr : ∀ j, i + 1 ≤ j → j < i + 1 + r.length → p j = b := by
      intro j h1 h2
      apply h j (by omega)
      simp only [List.length_cons]
      omega
    rw [pick, h0, ih (i + 1) hr]
    cases b <;> rfl

theorem hdrLoop_eq_foldl (otherName : Nat → String) (shown : List Nat) (st : HdrSt) (i : Nat) (cols : List Col) :
    hdrLoop otherName shown st i cols =
      (cols.zipIdx i).foldl (fun st p => hdrStep otherName shown st p.2 p.1) st := by
  induction cols generalizing st i with
  | nil => rfl
  | cons c r ih => simp only [hdrLoop, List.zipIdx_cons, List.foldl_cons, ih]

/-- four of the five lists the loop appends to collect the texts of the columns whose index is in `shown`; the fifth, `san`, depends on
    `seen`: accessor names are C17's subject (`Names.computeHeaders`), and the two models are deliberately not related -/
theorem hdrLoop_fields (otherName : Nat → String) (shown : List Nat) (st : HdrSt) (i : Nat) (cols : List Col) :
    (hdrLoop otherName shown st i cols).shown = st.shown ++ pick shown.contains (·.shownName) i cols ∧
    (hdrLoop otherName shown st i cols).disp = st.disp ++ pick shown.contains (fun c => c.name.getD "") i cols ∧
    (hdrLoop otherName shown st i cols).dts =
      st.dts ++ pick shown.contains (fun c => dtypeText otherName c.dtype) i cols ∧
    (hdrLoop otherName shown st i cols).lowers = st.lowers ++ pick shown.contains (·.lower) i cols := by
  induction cols generalizing st i with
  | nil => simp [hdrLoop, pick]
  | cons c r ih =>
    obtain ⟨h1, h2, h3, h4⟩ := ih (hdrStep otherName shown st i c) (i + 1)
    simp only [hdrLoop, pick, h1, h2, h3, h4]
    unfold hdrStep
    cases shown.contains i
    · -- hidden: only `seen` can change
      cases nameTruthy c.name
      · exact ⟨rfl, rfl, rfl, rfl⟩
      · cases c.san <;> exact ⟨rfl, rfl, rfl, rfl⟩
    · exact ⟨List.append_assoc .., List.append_assoc .., List.append_assoc .., List.append_assoc ..⟩

/-- the columns `_compute_headers` reports are the displayed columns -/
theorem pick_shownIdx {β : Type} (f : Col → β) (m : Nat) (cols : List Col) :
    pick (shownIdx m cols.length).contains f 0 cols = (shownCols m cols).map f := by
  unfold shownCols
  split
  · rename_i h
    -- `cols` is its first `m`, a hidden middle of `d + 1`, and its last `m` entries
    generalize hn : cols.length = n at h
    obtain ⟨d, rfl⟩ : ∃ d, n = m + (d + 1) + m := ⟨n - m * 2 - 1, by omega⟩
    have hsplit : cols = cols.take m ++ ((cols.drop m).take (d + 1) ++ (cols.drop m).drop (d + 1)) := by
      rw [List.take_append_drop, List.take_append_drop]
    -- the lengths and the membership facts below are single `Nat` lemmas: `omega` for them costs more than the rest of the proof
    have hm : m ≤ m + (d + 1) + m := Nat.le_add_right_of_le (Nat.le_add_right m _)
    have hdm : (cols.drop m).length = d + 1 + m := by
      rw [List.length_drop, hn, Nat.add_assoc, Nat.add_sub_cancel_left]
    have hlt : (cols.take m).length = m := List.length_take_of_le (hn ▸ hm)
    have hlm : ((cols.drop m).take (d + 1)).length = d + 1 := List.length_take_of_le (hdm ▸ Nat.le_add_right _ m)
    have hld : ((cols.drop m).drop (d + 1)).length = m := by
      rw [List.length_drop, hdm, Nat.add_sub_cancel_left]
    rw [Nat.add_sub_cancel, ← List.drop_drop]
    conv => lhs; rw [hsplit]
    rw [pick_append, pick_append, List.map_append, pick_const _ _ true, pick_const _ _ false, pick_const _ _ true]
    · rfl
    all_goals
      intro j h1 h2
      simp only [hlt, hlm, hld, Nat.zero_add] at h1 h2
      rw [Bool.eq_iff_iff, List.contains_iff_mem, mem_shownIdx]
    · exact iff_of_true ⟨h2, .inr (.inr (Nat.add_le_add_right h1 m))⟩ rfl  -- the last `m`
    · exact iff_of_false (fun ⟨_, h3⟩ => by omega) Bool.false_ne_true      -- the hidden middle
    · exact iff_of_true ⟨Nat.lt_of_lt_of_le h2 hm, .inr (.inl h2)⟩ rfl      -- the first `m`
  · rename_i h
    refine (pick_const _ _ true 0 cols fun j _ h2 => ?_).trans rfl
    exact List.contains_iff_mem.mpr (mem_shownIdx.mpr ⟨(Nat.zero_add _).subst h2, .inl (Nat.not_lt.mp h)⟩)

theorem computeHeaders_fields (otherName : Nat → String) (m : Nat) (cols : List Col) :
    (computeHeaders otherName cols (shownIdx m cols.length)).shown = (shownCols m cols).map (·.shownName) ∧
    (computeHeaders otherName cols (shownIdx m cols.length)).disp = (shownCols m cols).map (fun c => c.name.getD "") ∧
    (computeHeaders otherName cols (shownIdx m cols.length)).dts =
      (shownCols m cols).map (fun c => dtypeText otherName c.dtype) ∧
    (computeHeaders otherName cols (shownIdx m cols.length)).lowers = (shownCols m cols).map (·.lower) := by
  have h := hdrLoop_fields otherName (shownIdx m cols.length)
    { seen := [], disp := [], san := [], shown := [], lowers := [], dts := [] } 0 cols
  simp only [pick_shownIdx, List.nil_append] at h
  exact h

/-- the `_header_rows` part of the model's `tableHeader` (the model inlines it), on the five lists after the `...` column was inserted -/
def headerRows (disp shownNames lowers san dts : List String) : List HeaderRow × Bool :=
  let anyDisplay := disp.any (fun d => d != "..." && d != "")
  let anyStructural := (zip3 disp lowers san).any
    (fun (d, l, s) => d != "..." && s != "..." && isStructural d l s)
  let showTypes := heterogeneous (dts.filter (· != "..."))
  let row1 : List HeaderRow :=
    if anyDisplay then
      [{ judged := true, cells := (disp.zip shownNames).map (fun (d, s) => if d == "..." then "..." else s) }]
    else []
  let row2 : List HeaderRow :=
    if anyStructural || !anyDisplay then
      [{ judged := false, cells := san.map (fun s => if s != "" && s != "..." then "." ++ s else s) }]
    else []
  let row3 : List HeaderRow :=
    if showTypes then
      [{ judged := true, cells := dts.map (fun d => if d != "..." then "[" ++ d ++ "]" else "...") }]
    else []
  (row1 ++ row2 ++ row3, showTypes)

theorem tableHeader_eq (otherName : Nat → String) (m : Nat) (cols : List Col) :
    tableHeader otherName m cols =
      headerRows
        (if decide (cols.length > m * 2) then insertAt m "..." (computeHeaders otherName cols (shownIdx m cols.length)).disp
          else (computeHeaders otherName cols (shownIdx m cols.length)).disp)
        (if decide (cols.length > m * 2) then insertAt m "..." (computeHeaders otherName cols (shownIdx m cols.length)).shown
          else (computeHeaders otherName cols (shownIdx m cols.length)).shown)
        (if decide (cols.length > m * 2) then insertAt m "..." (computeHeaders otherName cols (shownIdx m cols.length)).lowers
          else (computeHeaders otherName cols (shownIdx m cols.length)).lowers)
        (if decide (cols.length > m * 2) then insertAt m "..." (computeHeaders otherName cols (shownIdx m cols.length)).san
          else (computeHeaders otherName cols (shownIdx m cols.length)).san)
        (if decide (cols.length > m * 2) then insertAt m "..." (computeHeaders otherName cols (shownIdx m cols.length)).dts
          else (computeHeaders otherName cols (shownIdx m cols.length)).dts) := rfl

/-- `show_types_in_header`: two displayed columns differ in dtype token -/
theorem tableHeader_showTypes (otherName : Nat → String) (m : Nat) (cols : List Col) :
    (tableHeader otherName m cols).2 =
      heterogeneous (((shownCols m cols).map (fun c => dtypeText otherName c.dtype)).filter (· != "...")) := by
  simp only [tableHeader_eq, headerRows, computeHeaders_fields, decide_eq_true_eq]
  split
  · rw [filter_insertAt_ellipsis]
  · rfl

theorem tableBody_total (k m : Nat) (cols : List Col)
    (h : ∀ col ∈ cols, ∀ c ∈ col.cells, c.formattable (col.dtype.map (·.kind)) = true) :
    ∃ b, tableBody k m cols = .ok b := by
  obtain ⟨f, hf⟩ : ∃ f, mapRes (formatColumn k) (shownCols m cols) = .ok f :=
    mapRes_total fun col hcol => formatColumn_total k col (h col (mem_of_mem_shownCols hcol))
  exact ⟨_, by rw [tableBody, hf]⟩

theorem tableBody_shape {k m : Nat} {c0 : Col} {cs : List Col} {body : List (List String)}
    (h : tableBody k m (c0 :: cs) = .ok body) (hm : m > 0) :
    body.length = (preview k c0.cells).length ∧
    ∀ row ∈ body, row.length =
      (shownCols m (c0 :: cs)).length + (if (c0 :: cs).length > m * 2 then 1 else 0) := by
  unfold tableBody at h
  split at h
  · cases h
  · rename_i fcols hf
    cases h
    have hlen := mapRes_ok_length hf
    -- the first displayed column is the first column (`m > 0`), so the row count read off `formatted_cols[0]` is that of `c0`
    obtain ⟨l0, hl0, hf0⟩ := mapRes_ok_getElem? hf (shownCols_getElem?_zero hm (c0 :: cs))
    have hnb : (fcols.headD []).length = (preview k c0.cells).length := by
      cases fcols with
      | nil => cases hf0
      | cons a b =>
        cases hf0
        exact formatColumn_length _ _ _ hl0
    constructor
    · simp only [rowsOf, List.length_map, List.length_range, hnb]
    intro row hrow
    simp only [rowsOf, List.mem_map, List.mem_range] at hrow
    obtain ⟨i, _, rfl⟩ := hrow
    rw [List.length_map, ← hlen]
    split
    · rw [length_insertAt]
    · rfl

theorem reprVector_nil {otherName : Nat → String} {rows : Nat} {v : Col} (h : v.cells = []) :
    reprVector otherName rows v =
      .ok { header := [], body := [], footer := .vector 0 (dtypeText otherName v.dtype), bare := true } := by
  simp [reprVector, h]

theorem reprVector_eq_ok {otherName : Nat → String} {rows : Nat} {v : Col} {out : Out}
    (hne : v.cells ≠ []) :
    reprVector otherName rows v = .ok out ↔ ∃ body, formatColumn (rows / 2) v = .ok body ∧
      out = { header := if nameTruthy v.name then [{ judged := true, cells := [v.shownName] }] else [],
              body := body.map (fun s => [s]),
              footer := .vector v.cells.length (dtypeText otherName v.dtype),
              bare := false } := by
  have : v.cells.isEmpty = false := by simpa using hne
  simp only [reprVector, this, Bool.false_eq_true, if_false]
  cases formatColumn (rows / 2) v with
  | error e => simp
  | ok body => exact ⟨fun h => ⟨body, rfl, (Except.ok.inj h).symm⟩, fun ⟨_, hb, ho⟩ => by cases hb; rw [ho]⟩

theorem reprTable_nil {otherName : Nat → String} {rows m : Nat} {t : Tab} (h : t.cols = []) :
    reprTable otherName rows m t = .ok { header := [], body := [], footer := .emptyTable, bare := true } := by
  simp [reprTable, h]

theorem reprTable_eq_ok {otherName : Nat → String} {rows m : Nat} {t : Tab} {out : Out} (hne : t.cols ≠ []) :
    reprTable otherName rows m t = .ok out ↔ ∃ body, tableBody (tableK rows t) m t.cols = .ok body ∧
      out = { header := (tableHeader otherName m t.cols).1,
              body := body,
              footer := .table t.nrows t.cols.length
                (footerTypes m (tableHeader otherName m t.cols).2 (decide (t.cols.length > m * 2))
                  (t.cols.map (fun c => dtypeText otherName c.dtype))),
              bare := false } := by
  have : t.cols.isEmpty = false := by simpa using hne
  simp only [reprTable, this, Bool.false_eq_true, if_false]
  cases tableBody (tableK rows t) m t.cols with
  | error e => simp
  | ok body => exact ⟨fun h => ⟨body, rfl, (Except.ok.inj h).symm⟩, fun ⟨_, hb, ho⟩ => by cases hb; rw [ho]⟩

end Serif.Repr
