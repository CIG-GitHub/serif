/- Facts about core types that core lacks.  Imports nothing; nothing here mentions a definition of the model. -/

namespace List

theorem foldl_congr_mem {σ π : Type} {f g : σ → π → σ} {ps : List π} (h : ∀ s, ∀ p ∈ ps, f s p = g s p) (s : σ) :
    ps.foldl f s = ps.foldl g s := by
  induction ps generalizing s with
  | nil => rfl
  | cons p ps ih => rw [foldl_cons, foldl_cons, h s p mem_cons_self, ih fun s q hq => h s q (mem_cons_of_mem _ hq)]

theorem foldl_append_singleton {α β : Type} (g : α → β) (l : List α) (init : List β) :
    l.foldl (fun acc x => acc ++ [g x]) init = init ++ l.map g := by
  induction l generalizing init with
  | nil => simp
  | cons a r ih => simp [ih]

/-- the same for a loop body that is only propositionally `acc ++ [g x]` -/
theorem foldl_eq_append_map {α β : Type} {f : List β → α → List β} {g : α → β}
    (hf : ∀ acc x, f acc x = acc ++ [g x]) (l : List α) (init : List β) : l.foldl f init = init ++ l.map g := by
  rw [show f = fun acc x => acc ++ [g x] from funext fun acc => funext (hf acc), foldl_append_singleton]

theorem filterMap_congr {α β : Type} {f g : α → Option β} {l : List α} (h : ∀ x ∈ l, f x = g x) :
    l.filterMap f = l.filterMap g := by
  induction l with
  | nil => rfl
  | cons a l ih => rw [filterMap_cons, filterMap_cons, h a mem_cons_self, ih fun x hx => h x (mem_cons_of_mem _ hx)]

theorem filterMap_ite_none {α β : Type} (p : α → Bool) (g : α → β) (l : List α) :
    l.filterMap (fun a => if p a then none else some (g a)) = (l.filter (fun a => !p a)).map g := by
  induction l with
  | nil => rfl
  | cons a l ih => cases h : p a <;> simp [h, ih]

theorem filterMap_eq_filterMap_iff_of_isSome {α β : Type} {f g : α → Option β} {l : List α}
    (hf : ∀ x ∈ l, (f x).isSome) (hg : ∀ x ∈ l, (g x).isSome) :
    l.filterMap f = l.filterMap g ↔ ∀ x ∈ l, f x = g x := by
  induction l with
  | nil => simp
  | cons x xs ih =>
    obtain ⟨a, ha⟩ := Option.isSome_iff_exists.mp (hf x mem_cons_self)
    obtain ⟨b, hb⟩ := Option.isSome_iff_exists.mp (hg x mem_cons_self)
    simp only [filterMap_cons, ha, hb, cons.injEq, mem_cons, forall_eq_or_imp, Option.some.injEq,
      ih (fun z hz => hf z (mem_cons_of_mem _ hz)) (fun z hz => hg z (mem_cons_of_mem _ hz))]

theorem length_filterMap_of_isSome {α β : Type} {f : α → Option β} {l : List α} (h : ∀ x ∈ l, (f x).isSome) :
    (l.filterMap f).length = l.length := by
  induction l with
  | nil => rfl
  | cons a l ih =>
    obtain ⟨b, hb⟩ := Option.isSome_iff_exists.mp (h a mem_cons_self)
    rw [filterMap_cons_some hb, length_cons, length_cons, ih fun x hx => h x (mem_cons_of_mem _ hx)]

theorem getElem?_filterMap_of_isSome {α β : Type} {f : α → Option β} {l : List α} (h : ∀ x ∈ l, (f x).isSome) (k : Nat) :
    (l.filterMap f)[k]? = l[k]?.bind f := by
  induction l generalizing k with
  | nil => rfl
  | cons a l ih =>
    obtain ⟨b, hb⟩ := Option.isSome_iff_exists.mp (h a mem_cons_self)
    rw [filterMap_cons_some hb]
    cases k with
    | zero => simpa using hb.symm
    | succ k => simpa using ih (fun x hx => h x (mem_cons_of_mem _ hx)) k

theorem map_getD_eq_filterMap {α β : Type} (f : α → Option β) (d : β) (l : List α) (h : ∀ a ∈ l, (f a).isSome) :
    l.map (fun a => (f a).getD d) = l.filterMap f := by
  induction l with
  | nil => rfl
  | cons a l ih =>
    obtain ⟨b, hb⟩ := Option.isSome_iff_exists.mp (h a (by simp))
    simp [hb, ih (fun x hx => h x (by simp [hx]))]

/-- positions past the end are dropped on both sides -/
theorem filterMap_getElem?_range' {α : Type} (l : List α) (s k : Nat) :
    (List.range' s k).filterMap (fun i => l[i]?) = (l.drop s).take k := by
  induction k generalizing s with
  | zero => simp
  | succ k ih =>
    rw [List.range'_succ, List.filterMap_cons, ih]
    by_cases hs : s < l.length
    · rw [List.getElem?_eq_getElem hs, List.drop_eq_getElem_cons hs, List.take_succ_cons]
    · rw [List.getElem?_eq_none (Nat.le_of_not_lt hs), List.drop_eq_nil_of_le (by omega), List.drop_eq_nil_of_le (by omega)]
      simp

theorem map_range_getD {α β : Type} (f : Nat → α → β) (l : List α) (d : α) :
    (List.range l.length).map (fun i => f i (l.getD i d)) = l.mapIdx f := by
  refine (List.mapIdx_eq_iff.mpr fun i => ?_).symm
  by_cases h : i < l.length <;> simp [h]

theorem getElem?_map_idxOf {α β : Type} [BEq α] [LawfulBEq α] (l : List α) (G : α → β) (k : α) (h : k ∈ l) :
    (l.map G)[l.idxOf k]? = some (G k) := by
  rw [getElem?_map, getElem?_eq_getElem (idxOf_lt_length_of_mem h), getElem_idxOf]
  rfl

theorem map_zipIdx_fst {α β : Type} (g : α → β) (l : List α) (s : Nat) : (l.zipIdx s).map (fun p => g p.1) = l.map g :=
  (map_map (f := Prod.fst) (g := g)).symm.trans (congrArg (map g) (zipIdx_map_fst s l))

theorem map_zipIdx_snd {α β : Type} (g : Nat → β) (l : List α) (s : Nat) :
    (l.zipIdx s).map (fun p => g p.2) = (range' s l.length).map g :=
  (map_map (f := Prod.snd) (g := g)).symm.trans (congrArg (map g) (zipIdx_map_snd s l))

theorem zipIdx_snd_lt {α : Type} (l : List α) (s : Nat) : (l.zipIdx s).Pairwise (fun p q => p.2 < q.2) := by
  have h : ((l.zipIdx s).map Prod.snd).Pairwise (· < ·) := by
    rw [zipIdx_map_snd]; exact pairwise_lt_range'
  exact pairwise_map.mp h

theorem set_eq_self_of_getElem? {α : Type} {l : List α} {j : Nat} {a : α} (h : l[j]? = some a) :
    l.set j a = l := by
  obtain ⟨hj, rfl⟩ := List.getElem?_eq_some_iff.mp h
  exact List.set_getElem_self hj

theorem set_getD_self {α : Type} (l : List α) (i : Nat) (d : α) : l.set i (l.getD i d) = l := by
  induction l generalizing i with
  | nil => rfl
  | cons x xs ih =>
    cases i with
    | zero => rfl
    | succ j => simp only [set_cons_succ, getD_cons_succ, ih]

theorem isPrefixOf_eq_take_beq {α : Type} [BEq α] [LawfulBEq α] (p a : List α) :
    p.isPrefixOf a = (a.take p.length == p) := by
  induction p generalizing a with
  | nil => simp
  | cons x p ih =>
    cases a with
    | nil => simp
    | cons y a => simp only [isPrefixOf, length_cons, take_succ_cons, cons_beq_cons, ih, BEq.comm (a := x)]

/-- clamping the bounds of `l[a:b]` to the length of `l` changes nothing -/
theorem take_drop_min_length {α : Type} (l : List α) (a b : Nat) :
    (l.drop (min a l.length)).take (min b l.length - min a l.length) = (l.drop a).take (b - a) := by
  by_cases ha : a ≤ l.length
  · rw [Nat.min_eq_left ha]
    by_cases hb : b ≤ l.length
    · rw [Nat.min_eq_left hb]
    · rw [Nat.min_eq_right (by omega), take_of_length_le (by simp), take_of_length_le (by simp; omega)]
  · rw [drop_eq_nil_of_le (by omega), drop_eq_nil_of_le (by omega)]; simp

theorem lookup_cons_eq_ite {α β : Type} [DecidableEq α] (a k : α) (b : β) (l : List (α × β)) :
    lookup a ((k, b) :: l) = if a = k then some b else lookup a l := by
  rw [lookup_cons]
  split <;> simp_all

theorem mem_of_lookup_eq_some {α β : Type} [BEq α] [LawfulBEq α] {l : List (α × β)} {a : α} {b : β}
    (h : l.lookup a = some b) : (a, b) ∈ l := by
  obtain ⟨l₁, l₂, rfl, _⟩ := lookup_eq_some_iff.mp h
  simp

theorem lookup_filter_of_lookup {α β : Type} [BEq α] [LawfulBEq α] {p : α × β → Bool} {l : List (α × β)} {a : α} {b : β}
    (h : l.lookup a = some b) (hp : p (a, b) = true) : (l.filter p).lookup a = some b := by
  obtain ⟨l₁, l₂, rfl, hne⟩ := lookup_eq_some_iff.mp h
  exact lookup_eq_some_iff.mpr ⟨l₁.filter p, l₂.filter p, by simp [hp], fun q hq => hne q (mem_filter.mp hq).1⟩

theorem flatMap_sublist {α β : Type} (l : List α) (f g : α → List β) (h : ∀ a, (f a).Sublist (g a)) :
    (l.flatMap f).Sublist (l.flatMap g) := by
  induction l with
  | nil => simp
  | cons a t ih => simp only [flatMap_cons]; exact (h a).append ih

theorem mapM_except_eq_ok_iff {ε α β : Type} {f : α → Except ε β} {l : List α} {r : List β} :
    l.mapM f = .ok r ↔ l.map f = r.map .ok := by
  induction l generalizing r with
  | nil => cases r <;> simp [pure, Except.pure]
  | cons a l ih =>
    rw [mapM_cons]
    cases hfa : f a with
    | error e => cases r <;> simp [bind, Except.bind, hfa]
    | ok b =>
      cases hl : l.mapM f with
      | error e => cases r <;> simp [bind, Except.bind, ← ih, hl]
      | ok bs => cases r <;> simp [bind, Except.bind, pure, Except.pure, ← ih, hl, hfa]

theorem length_of_mapM_eq_ok {ε α β : Type} {f : α → Except ε β} {l : List α} {r : List β} (h : l.mapM f = .ok r) :
    r.length = l.length := by
  simpa using (congrArg length (mapM_except_eq_ok_iff.mp h)).symm

theorem getElem?_of_mapM_eq_ok {ε α β : Type} {f : α → Except ε β} {l : List α} {r : List β} (h : l.mapM f = .ok r)
    {i : Nat} {a : α} (ha : l[i]? = some a) : ∃ b, f a = .ok b ∧ r[i]? = some b := by
  have hi := congrArg (·[i]?) (mapM_except_eq_ok_iff.mp h)
  simp only [getElem?_map, ha, Option.map_some] at hi
  cases hr : r[i]? with
  | none => simp [hr] at hi
  | some b => exact ⟨b, by simpa [hr] using hi, rfl⟩

theorem exists_of_mapM_eq_error {ε α β : Type} {f : α → Except ε β} {l : List α} {e : ε} (h : l.mapM f = .error e) :
    ∃ a ∈ l, f a = .error e := by
  induction l with
  | nil => cases h
  | cons a l ih =>
    rw [mapM_cons] at h
    cases hfa : f a with
    | error e' =>
      rw [hfa] at h
      cases h
      exact ⟨a, mem_cons_self, hfa⟩
    | ok b =>
      rw [hfa] at h
      cases hl : l.mapM f with
      | error e' =>
        rw [hl] at h; cases h
        obtain ⟨x, hx, hfx⟩ := ih hl
        exact ⟨x, mem_cons_of_mem _ hx, hfx⟩
      | ok bs => rw [hl] at h; cases h

theorem mapM_eq_ok_of_forall {ε α β : Type} {f : α → Except ε β} {l : List α} (h : ∀ a ∈ l, ∃ b, f a = .ok b) :
    ∃ r, l.mapM f = .ok r := by
  cases hm : l.mapM f with
  | ok r => exact ⟨r, rfl⟩
  | error e =>
    obtain ⟨a, ha, hfa⟩ := exists_of_mapM_eq_error hm
    obtain ⟨b, hb⟩ := h a ha
    rw [hb] at hfa; cases hfa

theorem mapM_congr_left {m : Type → Type} [Monad m] [LawfulMonad m] {α β : Type} {f g : α → m β} {l : List α}
    (h : ∀ a ∈ l, f a = g a) : l.mapM f = l.mapM g := by
  induction l with
  | nil => rfl
  | cons a l ih =>
    rw [mapM_cons, mapM_cons, h a mem_cons_self, ih fun x hx => h x (mem_cons_of_mem _ hx)]

end List

theorem ite_prod {α β : Type} {c : Prop} [Decidable c] (a a' : α) (b b' : β) :
    (if c then (a, b) else (a', b')) = (if c then a else a', if c then b else b') := by
  split <;> rfl

theorem Nat.toString_injective {i j : Nat} (h : toString i = toString j) : i = j := by
  simp only [Nat.toString_eq_repr] at h
  have := congrArg (fun s => Nat.ofDigitChars 10 s.toList 0) h
  simpa [Nat.toList_repr] using this

theorem Int.toNat_add_sub_one_ediv {d c : Int} (hc : 0 < c) :
    ((d + (c - 1)) / c).toNat = if 0 < d then ((d - 1) / c + 1).toNat else 0 := by
  split
  · have : d + (c - 1) = (d - 1) + 1 * c := by omega
    rw [this, Int.add_mul_ediv_right _ _ (by omega)]
  · have : (d + (c - 1)) / c < 1 := Int.ediv_lt_of_lt_mul hc (by omega)
    omega
