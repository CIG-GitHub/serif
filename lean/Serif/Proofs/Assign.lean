/-
  What the model of in-place assignment (C08) does on the vector path, the two wrappers and `rename_columns`: every
  run either raises and changes nothing or is described by its parts (`setitem_cases`, `tsetitem_cases`,
  `renameColumns_cases`).  That the model meets the executable specification is in Serif/Proofs/AssignSpec.lean.
  Slices and mask positions exist a second time in Model/Index.lean, slices under crossed names: a successful
  `Assign.sliceIndices` is `Index.sliceTriple` (not `Index.sliceIndices`; `sliceIndices_eq_sliceTriple`), and
  `trueIdxFrom` is `Index.maskIdxFrom`; what is needed of them here is taken from Proofs/Index.lean.
-/
import Serif.Model.Assign
import Serif.Proofs.DType
import Serif.Proofs.Index
import Serif.Proofs.Util

namespace Serif.Assign

theorem applyUpdates_length {α : Type} (l : List α) (ups : List (Nat × α)) :
    (applyUpdates l ups).length = l.length := by
  unfold applyUpdates
  induction ups generalizing l with
  | nil => rfl
  | cons u ups ih => simp only [List.foldl_cons]; rw [ih, List.length_set]

theorem foldl_lookup_eq_or {α : Type} (ups : List (Nat × α)) (i : Nat) (acc : Option α) :
    ups.foldl (fun acc u => if u.1 = i then some u.2 else acc) acc
      = (lookupLast ups i).or acc := by
  unfold lookupLast
  induction ups generalizing acc with
  | nil => simp
  | cons u ups ih =>
    simp only [List.foldl_cons]
    rw [ih, ih (if u.1 = i then some u.2 else none)]
    by_cases h : u.1 = i <;> simp [h]

theorem lookupLast_cons {α : Type} (u : Nat × α) (ups : List (Nat × α)) (i : Nat) :
    lookupLast (u :: ups) i = (lookupLast ups i).or (if u.1 = i then some u.2 else none) :=
  foldl_lookup_eq_or ups i _

theorem getElem?_applyUpdates {α : Type} (l : List α) (ups : List (Nat × α)) (i : Nat) :
    (applyUpdates l ups)[i]? = l[i]?.map fun x => (lookupLast ups i).getD x := by
  induction ups generalizing l with
  | nil => simp [applyUpdates, lookupLast]
  | cons u ups ih =>
    rw [show applyUpdates l (u :: ups) = applyUpdates (l.set u.1 u.2) ups from rfl, ih, lookupLast_cons,
      List.getElem?_set]
    by_cases hu : u.1 = i
    · subst hu
      by_cases h : u.1 < l.length
      · cases lookupLast ups u.1 <;> simp [h]
      · simp [h]
    · simp [hu]

theorem getElem?_listAssign {α : Type} (l : List α) (ups : List (Nat × α)) (i : Nat) :
    (listAssign l ups)[i]? = l[i]?.map fun x => (lookupLast ups i).getD x := by
  suffices h : ∀ k, (assignFrom ups k l)[i]? = l[i]?.map fun x => (lookupLast ups (k + i)).getD x by
    simpa [listAssign] using h 0
  induction l generalizing i with
  | nil => simp [assignFrom]
  | cons x xs ih =>
    intro k
    cases i with
    | zero => simp [assignFrom]
    | succ i => simp only [assignFrom, List.getElem?_cons_succ, ih, Nat.add_assoc, Nat.add_comm 1 i]

/-- the loop `for idx, v in updates: data[idx] = v` leaves exactly what list assignment leaves -/
theorem applyUpdates_eq_listAssign {α : Type} (l : List α) (ups : List (Nat × α)) :
    applyUpdates l ups = listAssign l ups :=
  List.ext_getElem? fun i => by rw [getElem?_applyUpdates, getElem?_listAssign]

theorem listAssign_length {α : Type} (l : List α) (ups : List (Nat × α)) :
    (listAssign l ups).length = l.length := by
  rw [← applyUpdates_eq_listAssign, applyUpdates_length]

theorem lookupLast_some_mem {α : Type} (ups : List (Nat × α)) (i : Nat) (v : α)
    (h : lookupLast ups i = some v) : (i, v) ∈ ups := by
  induction ups with
  | nil => simp [lookupLast] at h
  | cons u ups ih =>
    rw [lookupLast_cons] at h
    cases hl : lookupLast ups i with
    | some w =>
      rw [hl] at h
      simp at h
      subst h
      exact List.mem_cons_of_mem _ (ih hl)
    | none =>
      rw [hl] at h
      simp at h
      obtain ⟨h1, h2⟩ := h
      have : u = (i, v) := by cases u; simp_all
      rw [this]; exact List.mem_cons_self

theorem lookupLast_none_of_not_mem {α : Type} {ups : List (Nat × α)} {i : Nat}
    (h : ∀ u ∈ ups, u.1 ≠ i) : lookupLast ups i = none := by
  cases hl : lookupLast ups i with
  | none => rfl
  | some v => exact absurd rfl (h _ (lookupLast_some_mem ups i v hl))

theorem adj_eq_clamp (n lower upper x : Int) :
    (if x < 0 then max (x + n) lower else min x upper) = Index.clamp n lower upper x := by
  unfold Index.clamp
  split <;> split
  all_goals omega

/-- the two spellings of `slice.indices(n)`: a successful `sliceIndices` is `Index.sliceTriple` (for step 0 the two
    models return different exceptions) -/
theorem sliceIndices_eq_sliceTriple {a b c : Option Int} {n : Nat} {t : Int × Int × Int}
    (h : sliceIndices a b c n = .ok t) : Index.sliceTriple n ⟨a, b, c⟩ = .ok t := by
  unfold sliceIndices at h
  unfold Index.sliceTriple
  by_cases h0 : c.getD 1 = 0
  · rw [if_pos h0] at h
    cases h
  · rw [if_neg h0] at h
    cases h
    -- the limits are chosen by `step < 0` there and by `step > 0` here
    have hs : (c.getD 1 < 0) = ¬c.getD 1 > 0 := propext (by omega)
    simp only [if_neg h0, hs, adj_eq_clamp, ite_not]
    rfl

theorem sliceIndices_step_ne {a b c : Option Int} {n : Nat} {s e st : Int}
    (h : sliceIndices a b c n = .ok (s, e, st)) : st ≠ 0 :=
  (Index.sliceTriple_bounds (sliceIndices_eq_sliceTriple h)).1

theorem rangeLen_eq_index (s e : Int) {st : Int} (h : st ≠ 0) : rangeLen s e st = Index.rangeLen s e st := by
  unfold rangeLen Index.rangeLen
  by_cases hp : st > 0
  · simp only [hp, if_true]
  · simp only [hp, if_false, show st < 0 by omega, if_true]

/-- `typeutils.slice_length` computes `len(range(start, stop, step))` -/
theorem sliceLength_eq_rangeLen (s e st : Int) (h : st ≠ 0) : sliceLength s e st = rangeLen s e st := by
  rw [rangeLen_eq_index s e h, ← Index.sliceLength_eq_rangeLen s e st h, sliceLength]
  omega

theorem rangeList_length (s e st : Int) : (rangeList s e st).length = rangeLen s e st := by
  simp [rangeList]

/-- every position `range(*key.indices(n))` yields is a valid index -/
theorem slice_positions_bound {a b c : Option Int} {n : Nat} {s e st : Int}
    (h : sliceIndices a b c n = .ok (s, e, st)) {x : Int} (hx : x ∈ rangeList s e st) : 0 ≤ x ∧ x < n := by
  simp only [rangeList, List.mem_map, List.mem_range] at hx
  obtain ⟨k, hk, rfl⟩ := hx
  rw [rangeLen_eq_index s e (sliceIndices_step_ne h)] at hk
  exact Index.sliceTriple_pos_lt (sliceIndices_eq_sliceTriple h) hk

theorem mapOpt_some {α β : Type} (f : α → β) (l : List α) : mapOpt (fun a => some (f a)) l = some (l.map f) := by
  induction l with
  | nil => rfl
  | cons a l ih => simp [mapOpt, ih]

theorem mapOpt_length {α β : Type} {f : α → Option β} {l : List α} {r : List β}
    (h : mapOpt f l = some r) : r.length = l.length := by
  induction l generalizing r with
  | nil => cases h; rfl
  | cons a l ih =>
    unfold mapOpt at h
    split at h
    · cases h
    · split at h
      · cases h
      · next hm =>
        cases h
        simp [ih hm]

theorem trueIdxFrom_eq_maskIdxFrom (i : Nat) (bs : List Bool) : trueIdxFrom i bs = Index.maskIdxFrom i bs := by
  induction bs generalizing i with
  | nil => rfl
  | cons b bs ih => rw [trueIdxFrom, Index.maskIdxFrom, ih]

theorem trueIdxFrom_bound (i : Nat) (bs : List Bool) : ∀ k ∈ trueIdxFrom i bs, i ≤ k ∧ k < i + bs.length :=
  fun _ hk => Index.maskIdxFrom_mem (trueIdxFrom_eq_maskIdxFrom i bs ▸ hk)

-- The three instances of the hypothesis `hn : norm k = .ok p ↔ norm? k = some p` of `zipLoop_eq_ok` / `pairUp_eq_ok`,
-- one per normalisation the model uses; the right sides are `norm? k = some p` with `norm?` written out.
theorem normIdx_iff (n : Nat) (i : Int) (p : Nat) : normIdx n i = .ok p ↔ normIdx? n i = some p := by
  unfold normIdx normIdx?
  by_cases h : 0 ≤ (if i < 0 then i + ↑n else i) ∧ (if i < 0 then i + ↑n else i) < ↑n <;> simp [h]

theorem okNat_iff (k p : Nat) : okNat k = .ok p ↔ some k = some p := by
  simp [okNat]

theorem okInt_iff (k : Int) (p : Nat) : okInt k = .ok p ↔ some k.toNat = some p := by
  simp [okInt]

theorem zip_replicate {α β : Type} (l : List α) (c : β) :
    l.zip (List.replicate l.length c) = l.map (fun p => (p, c)) := by
  induction l with
  | nil => rfl
  | cons a l ih => simp [List.replicate_succ, ih]

theorem zipLoop_eq_ok {κ : Type} {norm : κ → Except Err Nat} {norm? : κ → Option Nat}
    (hn : ∀ k p, norm k = .ok p ↔ norm? k = some p) {items : List Cell} {ra : Option Nat} {j : Nat}
    {ks : List κ} {r : List (Nat × Cell)} (hlen : j + ks.length = items.length) :
    zipLoop norm items ra j ks = .ok r ↔
      (∀ k, ra = some k → k < j ∨ j + ks.length ≤ k) ∧
        ∃ ps, mapOpt norm? ks = some ps ∧ r = ps.zip (items.drop j) := by
  induction ks generalizing j r with
  | nil =>
    simp only [zipLoop, mapOpt, Except.ok.injEq, Option.some.injEq, exists_eq_left', List.zip_nil_left]
    exact ⟨fun h => ⟨fun k _ => Nat.lt_or_ge k _, h.symm⟩, fun h => h.2.symm⟩
  | cons k ks ih =>
    simp only [List.length_cons] at hlen ⊢
    have hj : j < items.length := by omega
    have hlen' : j + 1 + ks.length = items.length := (Nat.add_right_comm j 1 ks.length).trans hlen
    rw [List.drop_eq_getElem_cons hj]
    unfold zipLoop nextItem mapOpt
    by_cases hra : ra = some j
    · -- the iterator raises at this item
      simp only [hra, if_true, reduceCtorEq, false_iff, not_and]
      intro h
      have := h j rfl
      omega
    · -- it does not raise here, so "not among the items from `j` on" is "not among those from `j + 1` on": this is
      -- what lets the induction hypothesis apply
      have hsh : (∀ k', ra = some k' → k' < j ∨ j + (ks.length + 1) ≤ k') ↔
          ∀ k', ra = some k' → k' < j + 1 ∨ j + 1 + ks.length ≤ k' :=
        forall_congr' fun k' => imp_congr_right fun hk' => by
          have : k' ≠ j := fun h => hra (h ▸ hk'); omega
      simp only [hra, if_false, List.getElem?_eq_getElem hj, hsh]
      cases hk : norm k with
      | error e =>
        have : norm? k = none := Option.eq_none_iff_forall_ne_some.mpr fun p hp => by
          rw [(hn k p).mpr hp] at hk; cases hk
        simp [this]
      | ok p =>
        rw [(hn k p).mp hk]
        simp only
        cases hr : zipLoop norm items ra (j + 1) ks with
        | error e =>
          simp only [reduceCtorEq, false_iff, not_and, not_exists]
          intro h ps' hps' _
          cases hm : mapOpt norm? ks with
          | none => simp [hm] at hps'
          | some ps =>
            have := (ih hlen').mpr ⟨h, ps, hm, rfl⟩
            rw [hr] at this; cases this
        | ok rest =>
          obtain ⟨h1, ps, hps, rfl⟩ := (ih hlen').mp hr
          simp only [hps, Except.ok.injEq, Option.some.injEq, exists_eq_left', List.zip_cons_cons]
          exact ⟨fun h => ⟨h1, h.symm⟩, fun h => h.2.symm⟩

theorem zipLoop_replicate {κ : Type} (norm : κ → Except Err Nat) (c : Cell) (ks : List κ) (j m : Nat)
    (h : j + ks.length = m) :
    zipLoop norm (List.replicate m c) none j ks = scalarLoop norm c ks := by
  induction ks generalizing j with
  | nil => rfl
  | cons k ks ih =>
    simp only [List.length_cons] at h
    have hj : j < m := by omega
    simp [zipLoop, scalarLoop, nextItem, hj, ih (j + 1) (by omega)]

/-- `value` hands over `m` items without raising: a sequence has a usable `len` and its iterator does not
    raise before item `m` (a scalar is never iterated) -/
def Value.delivers (value : Value) (m : Nat) : Prop :=
  match value with
  | .scalar _ => True
  | .seq _ _ len ra => len = .ok ∧ ∀ k, ra = some k → m ≤ k

theorem Value.delivers_of_not_faulty {value : Value} (h : value.faulty = false) (m : Nat) :
    value.delivers m := by
  cases value with
  | scalar c => trivial
  | seq self items len ra =>
    simp only [Value.faulty, Bool.or_eq_false_iff, bne_eq_false_iff_eq, Option.isSome_eq_false_iff,
      Option.isNone_iff_eq_none] at h
    exact ⟨h.1, fun k hk => by simp [h.2] at hk⟩

/-- what the mask, slice and index-list cases do once the keys `ks` are known: a scalar goes to every key,
    a sequence must have `len(value) == len(ks)` and is zipped with them -/
def pairUp {κ : Type} (norm : κ → Except Err Nat) (ks : List κ) : Value → Except Err (List (Nat × Cell))
  | .scalar c => scalarLoop norm c ks
  | .seq _ items len ra =>
    match lenOf items len with
    | .error e => .error e
    | .ok m => if ks.length ≠ m then .error .value else zipLoop norm items ra 0 ks

theorem zipLoop_map {κ κ' : Type} (f : κ → κ') (norm : κ' → Except Err Nat) (items : List Cell)
    (ra : Option Nat) (j : Nat) (ks : List κ) :
    zipLoop norm items ra j (ks.map f) = zipLoop (fun k => norm (f k)) items ra j ks := by
  induction ks generalizing j with
  | nil => rfl
  | cons k ks ih => simp only [List.map_cons, zipLoop, ih]

theorem scalarLoop_map {κ κ' : Type} (f : κ → κ') (norm : κ' → Except Err Nat) (c : Cell) (ks : List κ) :
    scalarLoop norm c (ks.map f) = scalarLoop (fun k => norm (f k)) c ks := by
  induction ks with
  | nil => rfl
  | cons k ks ih => simp only [List.map_cons, scalarLoop, ih]

theorem pairUp_map {κ κ' : Type} (f : κ → κ') (norm : κ' → Except Err Nat) (ks : List κ) (value : Value) :
    pairUp norm (ks.map f) value = pairUp (fun k => norm (f k)) ks value := by
  cases value <;> simp only [pairUp, zipLoop_map, scalarLoop_map, List.length_map]

theorem maskUpdates_eq (bs : List Bool) (value : Value) (n : Nat) :
    maskUpdates bs value n = if bs.length ≠ n then .error .value else pairUp okNat (trueIdx bs) value := by
  unfold maskUpdates pairUp
  cases value <;> rfl

theorem idxUpdates_eq (is : List Int) (value : Value) (n : Nat) :
    idxUpdates is value n = pairUp (normIdx n) is value := by
  unfold idxUpdates pairUp
  cases value <;> rfl

theorem sliceUpdates_eq (a b c : Option Int) (value : Value) (n : Nat) :
    sliceUpdates a b c value n =
      match sliceIndices a b c n with
      | .error e => .error e
      | .ok (s, e, st) => pairUp okInt (rangeList s e st) value := by
  unfold sliceUpdates pairUp
  cases hsi : sliceIndices a b c n with
  | error e => rfl
  | ok t =>
    obtain ⟨s, e, st⟩ := t
    have hl : sliceLength s e st = (rangeList s e st).length := by
      rw [sliceLength_eq_rangeLen s e st (sliceIndices_step_ne hsi), rangeList_length]
    cases value with
    | scalar c => simp only [hl]; exact zipLoop_replicate okInt c _ 0 _ (by simp)
    | seq self items len ra => simp only [hl]; rfl

theorem pairUp_eq_ok {κ : Type} {norm : κ → Except Err Nat} {norm? : κ → Option Nat}
    (hn : ∀ k p, norm k = .ok p ↔ norm? k = some p) (ks : List κ) (value : Value) (ups : List (Nat × Cell)) :
    pairUp norm ks value = .ok ups ↔
      ∃ ps, mapOpt norm? ks = some ps ∧ value.delivers ps.length ∧
        ∃ vs, seqCells value ps.length = some vs ∧ ups = ps.zip vs := by
  cases value with
  | scalar c =>
    -- the scalar loop is the zip loop over `[c] * len(ks)`, so that `zipLoop_eq_ok` serves both cases
    rw [pairUp, ← zipLoop_replicate norm c ks 0 _ (Nat.zero_add _), zipLoop_eq_ok hn (by simp)]
    simp only [reduceCtorEq, false_implies, implies_true, true_and, List.drop_zero, Value.delivers, seqCells,
      Option.some.injEq, exists_eq_left']
    exact exists_congr fun ps => and_congr_right fun hps => by rw [mapOpt_length hps]
  | seq self items len ra =>
    simp only [pairUp, Value.delivers, seqCells]
    cases len with
    | ok =>
      simp only [lenOf, true_and]
      by_cases hc : ks.length = items.length
      · simp only [hc, ne_eq, not_true_eq_false, if_false]
        rw [zipLoop_eq_ok hn ((Nat.zero_add _).trans hc)]
        simp only [List.drop_zero, Nat.zero_add, Nat.not_lt_zero, false_or]
        constructor
        · rintro ⟨hra, ps, hps, rfl⟩
          have hl := mapOpt_length hps
          refine ⟨ps, hps, ?_, items, ?_, rfl⟩
          · rwa [hl]
          · simp [hl, hc]
        · rintro ⟨ps, hps, hra, vs, hvs, rfl⟩
          have hl := mapOpt_length hps
          simp only [hl, hc, if_true, Option.some.injEq] at hvs
          refine ⟨?_, ps, hps, ?_⟩
          · rwa [hl] at hra
          · rw [hvs]
      · simp only [ne_eq, hc, not_false_eq_true, if_true, reduceCtorEq, false_iff, not_exists, not_and]
        intro ps hps _ vs hvs
        simp [mapOpt_length hps, Ne.symm hc] at hvs
    | missing => simp [lenOf]
    | raises => simp [lenOf]

theorem seqCells_length {value : Value} {m : Nat} {vs : List Cell} (h : seqCells value m = some vs) :
    vs.length = m := by
  cases value with
  | scalar c => cases h; simp
  | seq self items len ra =>
    simp only [seqCells] at h
    split at h <;> simp_all

theorem valueCells_nonint (key : Key) (value : Value) (m : Nat) (h : ∀ i, key ≠ .int i) :
    valueCells key value m = seqCells value m := by
  cases key with
  | int i => exact absurd rfl (h i)
  | _ => rfl

theorem specUpdates_eq_some {key : Key} {value : Value} {n : Nat} {ups : List (Nat × Cell)} :
    specUpdates key value n = some ups ↔
      ∃ ts vs, keyTargets key n = some ts ∧ valueCells key value ts.length = some vs ∧ ups = ts.zip vs := by
  unfold specUpdates
  cases keyTargets key n with
  | none => simp
  | some ts => cases h : valueCells key value ts.length <;> simp [h, eq_comm]

theorem specUpdates_and_delivers {key : Key} (hk : ∀ i, key ≠ .int i) {value : Value} {n : Nat}
    {ups : List (Nat × Cell)} :
    specUpdates key value n = some ups ∧ value.delivers ups.length ↔
      ∃ ts, keyTargets key n = some ts ∧ value.delivers ts.length ∧
        ∃ vs, seqCells value ts.length = some vs ∧ ups = ts.zip vs := by
  simp only [specUpdates_eq_some, fun m => valueCells_nonint key value m hk]
  constructor
  · rintro ⟨⟨ts, vs, hts, hvs, rfl⟩, hd⟩
    exact ⟨ts, hts, by simpa [seqCells_length hvs] using hd, vs, hvs, rfl⟩
  · rintro ⟨ts, hts, hd, vs, hvs, rfl⟩
    exact ⟨⟨ts, vs, hts, hvs, rfl⟩, by simpa [seqCells_length hvs] using hd⟩

/-- **the collecting loops, exactly**; a single int key stores the value unconsumed, hence the first disjunct -/
theorem buildUpdates_eq_ok {key : Key} {value : Value} {n : Nat} {ups : List (Nat × Cell)} :
    buildUpdates key value n = .ok ups ↔
      specUpdates key value n = some ups ∧ ((∃ i, key = .int i) ∨ value.delivers ups.length) := by
  have mask : ∀ bs, maskUpdates bs value n = .ok ups ↔
      ∃ ts, (if bs.length = n then some (trueIdx bs) else none) = some ts ∧ value.delivers ts.length ∧
        ∃ vs, seqCells value ts.length = some vs ∧ ups = ts.zip vs := by
    intro bs
    rw [maskUpdates_eq]
    by_cases hl : bs.length = n
    · -- `norm?` is spelt `fun i => some (id i)` so that `mapOpt_some id` rewrites `mapOpt norm? (trueIdx bs)`
      simp only [hl, ne_eq, not_true_eq_false, if_false, if_true,
        pairUp_eq_ok (norm? := fun i => some (id i)) okNat_iff, mapOpt_some id, List.map_id]
    · simp [hl]
  have idx : ∀ is, idxUpdates is value n = .ok ups ↔
      ∃ ts, mapOpt (normIdx? n) is = some ts ∧ value.delivers ts.length ∧
        ∃ vs, seqCells value ts.length = some vs ∧ ups = ts.zip vs := by
    intro is
    rw [idxUpdates_eq, pairUp_eq_ok (normIdx_iff n)]
  by_cases hk : ∃ i, key = .int i
  · obtain ⟨i, rfl⟩ := hk
    simp only [buildUpdates, specUpdates, keyTargets, valueCells, Key.int.injEq, exists_eq', true_or, and_true]
    cases hn : normIdx n i with
    | error e =>
      have : normIdx? n i = none := by
        cases h : normIdx? n i with
        | none => rfl
        | some p => rw [(normIdx_iff n i p).mpr h] at hn; cases hn
      simp [this]
    | ok p => simp [(normIdx_iff n i p).mp hn, eq_comm]
  · have hk' : ∀ i, key ≠ .int i := fun i h => hk ⟨i, h⟩
    rw [or_iff_right hk, specUpdates_and_delivers hk']
    cases key with
    | int i => exact absurd rfl (hk' i)
    | slice a b c =>
      simp only [buildUpdates, sliceUpdates_eq, keyTargets]
      cases sliceIndices a b c n with
      | error e => simp
      | ok t =>
        obtain ⟨s, e, st⟩ := t
        -- as for the masks: `norm?` spelt so that `mapOpt_some Int.toNat` makes the targets `(rangeList …).map _`
        simp only [pairUp_eq_ok (norm? := fun i => some (Int.toNat i)) okInt_iff, mapOpt_some Int.toNat]
    | maskList bs => exact mask bs
    | maskVec bs => exact mask bs
    | idxVec is => exact idx is
    | idxList is => exact idx is
    | bad => simp [buildUpdates, keyTargets]

theorem buildUpdates_complete (key : Key) (value : Value) (n : Nat) (ups : List (Nat × Cell))
    (hf : value.faulty = false ∨ ∃ i, key = .int i)
    (h : specUpdates key value n = some ups) : buildUpdates key value n = .ok ups :=
  buildUpdates_eq_ok.mpr ⟨h, hf.symm.imp id fun hf => Value.delivers_of_not_faulty hf _⟩

theorem widens_iff {a b : Kind} : widens a b = true ↔
    a = .int ∧ b = .float ∨ a = .int ∧ b = .complex ∨ a = .float ∧ b = .complex ∨
      a = .date ∧ b = .datetime := by
  unfold widens
  split <;> simp_all

theorem genP_eq_widens (a b : Kind) : genP a b = widens a b := by
  have hc : ∀ k c : Kind, k.code = c.code ↔ k = c := fun k c => ⟨Kind.code_inj, fun h => h ▸ rfl⟩
  rw [Bool.eq_iff_iff, widens_iff]
  simp only [genP, Gen.promotable, List.contains_eq_mem, List.mem_cons, Prod.mk.injEq, List.not_mem_nil, or_false,
    decide_eq_true_eq]
  rw [← hc a .int, ← hc a .float, ← hc a .date, ← hc b .float, ← hc b .complex, ← hc b .datetime]
  -- both sides are now the four pairs as equations between codes, in the order in which `Gen.promotable` lists them,
  -- which is the order of `widens_iff`: a regenerated table in another order fails here
  rfl

theorem genP_is_widens : genP = widens := funext fun a => funext fun b => genP_eq_widens a b

/-- no widening: the three tests `_promote` makes after `cur is target` all fail -/
theorem not_widens {a b : Kind} (h : ¬widens a b = true) :
    ¬(b = .float ∧ a = .int) ∧ ¬(b = .complex ∧ (a = .int ∨ a = .float)) ∧
      ¬(b = .datetime ∧ a = .date) := by
  simp only [widens_iff, not_or, not_and] at h
  obtain ⟨h1, h2, h3, h4⟩ := h
  exact ⟨fun h => h1 h.2 h.1, fun h => h.2.elim (h2 · h.1) (h3 · h.1), fun h => h4 h.2 h.1⟩

/-- `_promote` converts exactly along the widenings -/
theorem promoteVec_eq (a b : Kind) :
    promoteVec a b = if a = b ∨ widens a b = true then some b else none := by
  unfold promoteVec
  by_cases hab : a = b
  · simp [hab]
  · by_cases hw : widens a b = true
    · rcases widens_iff.mp hw with ⟨rfl, rfl⟩ | ⟨rfl, rfl⟩ | ⟨rfl, rfl⟩ | ⟨rfl, rfl⟩ <;> simp [hw]
    · obtain ⟨e1, e2, e3⟩ := not_widens hw
      simp [hab, hw, e1, e2, e3]

-- a stated theorem without a user; it stands in front of the section so that its binders stay its own
theorem shape_length (t t' : TState) (h : shape t' = shape t) : t'.cols.length = t.cols.length := by
  have := congrArg List.length h
  simpa [shape] using this

section
variable (P : Kind → Kind → Bool) (conv : Kind → Nat → Option Nat)

theorem convAll_eq_mapOpt (k : Kind) (l : List Cell) :
    convAll conv k l = mapOpt (convCell conv k) l := by
  induction l with
  | nil => rfl
  | cons c cs ih =>
    simp only [convAll, mapOpt, ih]
    cases convCell conv k c with
    | none => rfl
    | some c' => cases mapOpt (convCell conv k) cs <;> rfl

theorem convAll_length {k : Kind} {l r : List Cell}
    (h : convAll conv k l = some r) : r.length = l.length :=
  mapOpt_length (convAll_eq_mapOpt conv k l ▸ h)

theorem promoteState_eq (k : Kind) (d : DType) (s : VState) :
    promoteState conv k d s =
      if k = d.kind then (none, s)
      else if widens d.kind k = true then
        match convAll conv k s.data with
        | none => (some .other, s)
        | some data' => (none, { s with data := data', dtype := some ⟨k, d.nullable⟩ })
      else (some .type, s) := by
  unfold promoteState
  rw [promoteVec_eq]
  by_cases hk : k = d.kind
  · simp [hk]
  · have hk' : ¬d.kind = k := fun h => hk h.symm
    by_cases hw : widens d.kind k = true
    · simp only [hk, hk', hw, false_or, if_true, if_false]
      rfl
    · simp only [hk, hk', hw, false_or, if_false]
      rfl

theorem hasNone_cons_ty {c : Cell} {cs : List Cell} {k : Kind} (h : c.tag = .ty k) :
    hasNone (c :: cs) = hasNone cs := by
  simp [hasNone, h]

theorem foldTarget_nullable {d target : DType} {vals : List Cell} (h : foldTarget P conv d vals = .ok target) :
    target.nullable = (d.nullable || hasNone vals) := by
  induction vals generalizing d with
  | nil =>
    simp [foldTarget] at h
    subst h
    simp [hasNone]
  | cons c cs ih =>
    unfold foldTarget at h
    cases ht : c.tag with
    | none =>
      simp only [ht] at h
      rw [ih h]
      simp [hasNone, ht]
    | ty k =>
      simp only [ht] at h
      rw [hasNone_cons_ty ht]
      split at h
      · split at h
        · cases h
        · exact ih h
      · split at h
        · rw [ih h]
        · cases h

theorem typePhase_eq (vals : List Cell) (s : VState) :
    typePhase P conv vals s =
      if vals = [] then (none, s) else
      match s.dtype with
      | none => (none, s)
      | some d =>
        if d.kind = .object then (none, { s with dtype := some ⟨.object, d.nullable || hasNone vals⟩ })
        else checkedOut conv s d (foldTarget P conv d vals) := by
  unfold typePhase
  by_cases hv : vals = []
  · simp [hv]
  · have hv' : vals.isEmpty = false := by simpa using hv
    obtain ⟨sd, sdt, sn, sf⟩ := s
    simp only [hv, hv', Bool.false_eq_true, if_false]
    cases sdt with
    | none => rfl
    | some d =>
      obtain ⟨dk, dn⟩ := d
      simp only
      by_cases ho : dk = .object
      · subst ho
        cases dn <;> cases hasNone vals
        all_goals simp
      · simp only [ho, if_false]
        unfold checkedOut
        cases hf : foldTarget P conv ⟨dk, dn⟩ vals with
        | error e => rfl
        | ok target =>
          simp only
          by_cases hk : target.kind = dk
          · cases hb : target.nullable <;> cases dn
            all_goals simp [hk]
          · simp only [ne_eq, hk, not_false_eq_true, if_true, if_false]
            unfold promoteState
            cases hp : promoteVec dk target.kind with
            | none => rfl
            | some k' =>
              have := promoteVec_some hp
              subst this
              simp only [hk, if_false]
              cases hc : convAll conv target.kind sd with
              | none => rfl
              | some cvt =>
                cases hb : target.nullable <;> cases dn
                all_goals simp

/-- `n`: the nullable flag the fold worked out (`foldTarget_nullable`) -/
theorem checkedOut_cases (s : VState) (d : DType) (fr : Except Err DType) (n : Bool)
    (hd : s.dtype = some d) (hn : ∀ t, fr = .ok t → t.nullable = n) :
    (∃ e, checkedOut conv s d fr = (some e, s)) ∨
    (∃ s1, checkedOut conv s d fr = (none, s1) ∧ s1.name = s.name ∧
      s1.data.length = s.data.length ∧ convertedOld conv s s1 = some s1.data ∧
      ∃ d', s1.dtype = some d' ∧ d'.nullable = (d.nullable || n)) := by
  unfold checkedOut
  cases fr with
  | error e => exact .inl ⟨e, rfl⟩
  | ok target =>
    have hn := hn target rfl
    simp only
    by_cases hk : target.kind = d.kind
    · simp only [hk, if_true]
      refine .inr ⟨_, rfl, rfl, rfl, ?_, _, rfl, ?_⟩
      · simp [convertedOld, hd]
      · simp [hn]
    · simp only [hk, if_false]
      cases promoteVec d.kind target.kind with
      | none => exact .inl ⟨_, rfl⟩
      | some _ =>
        simp only
        cases hc : convAll conv target.kind s.data with
        | none => exact .inl ⟨_, rfl⟩
        | some cvt =>
          refine .inr ⟨_, rfl, rfl, convAll_length _ hc, ?_, _, rfl, ?_⟩
          · simp [convertedOld, hd, hk, hc]
          · simp [hn]

theorem typePhase_cases (vals : List Cell) (s : VState) :
    (∃ e, typePhase P conv vals s = (some e, s)) ∨
    (∃ s1, typePhase P conv vals s = (none, s1) ∧ s1.name = s.name ∧
      s1.data.length = s.data.length ∧ convertedOld conv s s1 = some s1.data ∧
      ∀ d, s.dtype = some d → ∃ d', s1.dtype = some d' ∧ d'.nullable = (d.nullable || hasNone vals)) := by
  rw [typePhase_eq]
  by_cases hv : vals = []
  · refine .inr ⟨s, by simp [hv], rfl, rfl, ?_, fun d hd => ⟨d, hd, ?_⟩⟩
    · unfold convertedOld
      cases s.dtype <;> simp
    · simp [hv, hasNone]
  · simp only [hv, if_false]
    cases hd : s.dtype with
    | none =>
      refine .inr ⟨s, rfl, rfl, rfl, ?_, fun d h => by cases h⟩
      simp [convertedOld, hd]
    | some d =>
      simp only
      by_cases ho : d.kind = .object
      · simp only [ho, if_true]
        refine .inr ⟨_, rfl, rfl, rfl, ?_, fun d' h => ⟨_, rfl, ?_⟩⟩
        · simp [convertedOld, hd, ho]
        · cases h
          rfl
      · simp only [ho, if_false]
        refine (checkedOut_cases conv s d _ (d.nullable || hasNone vals) hd fun t ht =>
          foldTarget_nullable P conv ht).imp id ?_
        rintro ⟨s1, h1, h2, h3, h4, d', h6, h7⟩
        refine ⟨s1, h1, h2, h3, h4, fun d0 h0 => ⟨d', h6, ?_⟩⟩
        cases h0
        simpa using h7

theorem setitem_eq (shared : Bool)
    (key : Key) (value : Value) (s : VState) :
    setitem P conv shared key value s =
      if (!s.data.isEmpty && shared) = true then (some .alias, s) else
      match buildUpdates key value s.data.length with
      | .error e => (some e, s)
      | .ok ups => finish ups (typePhase P conv (ups.map (·.2)) s) := by
  unfold setitem finish
  split
  · rfl
  · cases buildUpdates key value s.data.length <;> rfl

/-- **every run of `__setitem__`**, whatever it returned: it raised and left the vector as it was; or it collected
    a well-formed update list, let the type phase adjust dtype and old contents (`s1`), and wrote the updates over
    them -/
theorem setitem_cases {shared : Bool} {key : Key} {value : Value} {s : VState} {r : Option Err × VState}
    (h : setitem P conv shared key value s = r) :
    (∃ e, r = (some e, s)) ∨
    ∃ ups s1, specUpdates key value s.data.length = some ups ∧
      s1.name = s.name ∧ s1.data.length = s.data.length ∧ convertedOld conv s s1 = some s1.data ∧
      (∀ d, s.dtype = some d →
        ∃ d', s1.dtype = some d' ∧ d'.nullable = (d.nullable || hasNone (ups.map (·.2)))) ∧
      r = (none, materialise ups s1) := by
  subst h
  rw [setitem_eq]
  split
  · exact .inl ⟨_, rfl⟩
  · cases hb : buildUpdates key value s.data.length with
    | error e => exact .inl ⟨e, rfl⟩
    | ok ups =>
      rcases typePhase_cases P conv (ups.map (·.2)) s with ⟨e, he⟩ | ⟨s1, he, hn, hl, hc, hd⟩
      · exact .inl ⟨e, by simp only [he, finish]⟩
      · exact .inr ⟨ups, s1, (buildUpdates_eq_ok.mp hb).1, hn, hl, hc, hd, by simp only [he, finish]⟩

theorem finish_fst {ups : List (Nat × Cell)} {r : Option Err × VState} : (finish ups r).1 = r.1 := by
  cases r with
  | mk e s => cases e <;> rfl

theorem setitem_frame (shared : Bool) (key : Key) (value : Value) (s : VState) :
    (setitem P conv shared key value s).2.data.length = s.data.length ∧
      (setitem P conv shared key value s).2.name = s.name ∧
      ∀ e, (setitem P conv shared key value s).1 = some e → (setitem P conv shared key value s).2 = s := by
  rcases setitem_cases P conv (rfl : setitem P conv shared key value s = _) with
    ⟨e', he⟩ | ⟨ups, s1, _, hn, hl, _, _, he⟩
  · rw [he]; exact ⟨rfl, rfl, fun _ _ => rfl⟩
  · rw [he]; exact ⟨hl ▸ applyUpdates_length _ _, hn, fun _ h => by cases h⟩

theorem writeCols_cons (row : Key)
    (ci : Int) (v : Value) (rest : List (Int × Value)) (t : TState) :
    writeCols P conv row ((ci, v) :: rest) t =
      match tupleIndex t.cols.length ci with
      | none => (some .other, t)
      | some j =>
        match t.cols[j]? with
        | none => (some .other, t)
        | some col =>
          match setitem P conv false row v col with
          | (some e, col') => (some e, { cols := t.cols.set j col' })
          | (none, col') => writeCols P conv row rest { cols := t.cols.set j col' } := by
  rw [writeCols]; rfl

theorem writeCols_cons_cases (row : Key)
    (ci : Int) (v : Value) (rest : List (Int × Value)) (t : TState) :
    (∃ e, writeCols P conv row ((ci, v) :: rest) t = (some e, t)) ∨
    (∃ j col col', tupleIndex t.cols.length ci = some j ∧ t.cols[j]? = some col ∧
        setitem P conv false row v col = (none, col') ∧
        writeCols P conv row ((ci, v) :: rest) t = writeCols P conv row rest { cols := t.cols.set j col' }) := by
  rw [writeCols_cons]
  cases hi : tupleIndex t.cols.length ci with
  | none => exact .inl ⟨_, rfl⟩
  | some j =>
    simp only
    cases hc : t.cols[j]? with
    | none => exact .inl ⟨_, rfl⟩
    | some col =>
      simp only
      rcases setitem_cases P conv (rfl : setitem P conv false row v col = _) with
        ⟨e, he⟩ | ⟨_, _, _, _, _, _, _, he⟩
      · refine .inl ⟨e, ?_⟩
        -- writing the unchanged column back leaves the list of columns as it was
        rw [he]
        simp only [List.set_eq_self_of_getElem? hc]
      · refine .inr ⟨j, col, _, rfl, hc, he, ?_⟩
        rw [he]

theorem writeCols_shape (row : Key)
    (ws : List (Int × Value)) (t : TState) :
    shape (writeCols P conv row ws t).2 = shape t := by
  induction ws generalizing t with
  | nil => simp [writeCols]
  | cons w rest ih =>
    obtain ⟨ci, v⟩ := w
    rcases writeCols_cons_cases P conv row ci v rest t with ⟨e, he⟩ | ⟨j, col, col', _, hc, hs, hw⟩
    · rw [he]
    · rw [hw, ih]
      obtain ⟨hl, hn, _⟩ := setitem_frame P conv false row v col
      rw [hs] at hl hn
      simp only at hl hn
      simp only [shape, List.map_set, hl, hn]
      exact List.set_eq_self_of_getElem? (by simp [hc])

theorem writeCols_untouched (row : Key)
    (ws : List (Int × Value)) (t : TState) (j : Nat)
    (h : ∀ w ∈ ws, tupleIndex t.cols.length w.1 ≠ some j) :
    (writeCols P conv row ws t).2.cols[j]? = t.cols[j]? := by
  induction ws generalizing t with
  | nil => simp [writeCols]
  | cons w rest ih =>
    obtain ⟨ci, v⟩ := w
    rcases writeCols_cons_cases P conv row ci v rest t with ⟨e, he⟩ | ⟨j', col, col', hi, hc, hs, hw⟩
    · rw [he]
    · rw [hw, ih]
      · have hne : j' ≠ j := by
          intro heq
          subst heq
          exact h (ci, v) List.mem_cons_self hi
        simp [hne]
      · intro w hwm
        simp only [List.length_set]
        exact h w (List.mem_cons_of_mem _ hwm)

/-- **every run of `Table.__setitem__`**, whatever it returned: it raised and the table is as it was, or the plan
    succeeded and the column loop ran through -/
theorem tsetitem_cases {key : TKey} {value : TValue} {t : TState} {r : Option Err × TState}
    (h : tsetitem P conv key value t = r) :
    (∃ e, r = (some e, t)) ∨
    ∃ row ws t', plan (t.cols.map (·.name)) t.cols.length key value = .ok (row, ws) ∧
      writeCols P conv row ws t = (none, t') ∧ r = (none, t') := by
  subst h
  unfold tsetitem
  cases hp : plan (t.cols.map (·.name)) t.cols.length key value with
  | error e => exact .inl ⟨e, rfl⟩
  | ok rw =>
    obtain ⟨row, ws⟩ := rw
    cases hw : writeCols P conv row ws t with
    | mk r t' =>
      cases r with
      | some e => exact .inl ⟨e, by simp only [hw]⟩
      | none => exact .inr ⟨row, ws, t', rfl, hw, by simp only [hw]⟩

theorem tsetitem_err_unchanged {key : TKey} {value : TValue} {t : TState} {e : Err}
    (h : (tsetitem P conv key value t).1 = some e) :
    (tsetitem P conv key value t).2 = t := by
  rcases tsetitem_cases P conv (rfl : tsetitem P conv key value t = _) with ⟨e', he⟩ | ⟨_, _, _, _, _, he⟩
  · rw [he]
  · rw [he] at h; cases h

end

theorem renameSim_ok {ra : Option Nat} {j : Nat} {pairs : List (Option Nat × Option Nat)}
    {names r : List (Option Nat)} (h : renameSim ra j pairs names = .ok r) :
    renameSpec pairs names = some r ∧ renameApply pairs names = r := by
  induction pairs generalizing j names with
  | nil =>
    simp [renameSim] at h
    subst h
    simp [renameSpec, renameApply]
  | cons p rest ih =>
    obtain ⟨old, new⟩ := p
    unfold renameSim at h
    split at h
    · cases h
    · cases ho : renameOne names old new with
      | none => simp [ho] at h
      | some names' =>
        simp only [ho] at h
        have := ih h
        simp [renameSpec, renameApply, ho, this]

/-- **every run of `rename_columns`**, whatever it returned: it raised and the names are as they were, or the
    lists have the same length and the apply pass did exactly the sequential first-match renaming -/
theorem renameColumns_cases {olds news : List (Option Nat)} {ra : Option Nat} {names : List (Option Nat)}
    {r : Option Err × List (Option Nat)} (h : renameColumns olds news ra names = r) :
    (∃ e, r = (some e, names)) ∨
    (olds.length = news.length ∧
      ∃ names', renameSpec (olds.zip news) names = some names' ∧ r = (none, names')) := by
  subst h
  unfold renameColumns
  split
  · exact .inl ⟨_, rfl⟩
  · rename_i hl
    cases hs : renameSim ra 0 (olds.zip news) names with
    | error e => exact .inl ⟨e, rfl⟩
    | ok r =>
      obtain ⟨h1, h2⟩ := renameSim_ok hs
      exact .inr ⟨Decidable.not_not.mp hl, r, h1, by rw [h2]⟩

end Serif.Assign
