/-
  The csv lexer under any line-splitting policy (Serif/Model/CsvLex.lean drives the machine line by line; *where* the file object
  ends a line is a parameter here): a policy says, after character `c` with `rest` still to come, whether a line ends.  Iterating a
  text stream opened with `newline=''` — which is how `read_csv` opens a path — ends lines at `'\n'`, `'\r\n'` and a lone `'\r'`
  (`univ`); `io.StringIO(text)` ends them at `'\n'` only (`lf`).  Reading back what the writer wrote gives the records under every
  policy that ends a line after `'\n'`, never after an ordinary character and not between `'\r'` and `'\n'` — inside quotes it does
  not matter where lines end.  The `'\n'`-only drivers of the model (`stream`, `splitLF`) are the instance `lf`:
  Serif/Proofs/CsvLex.lean.
-/
import Serif.Model.CsvLex

namespace Serif.CsvLex

/-- the machine driven character by character: EOL where the policy ends a line, and after the last character -/
def streamP (d : Char) (inj : Char → List Char → Bool) : St → List Char → Except Err St
  | s, [] => .ok s
  | s, c :: cs =>
    match step d s (some c) with
    | .error e => .error e
    | .ok s' =>
      if inj c cs || cs.isEmpty then
        match eol d s' with
        | .error e => .error e
        | .ok s'' => streamP d inj s'' cs
      else streamP d inj s' cs

/-- … without the EOL at the very end (the middle of a text) -/
def feedP (d : Char) (inj : Char → List Char → Bool) : St → List Char → Except Err St
  | s, [] => .ok s
  | s, c :: cs =>
    match step d s (some c) with
    | .error e => .error e
    | .ok s' =>
      if inj c cs then
        match eol d s' with
        | .error e => .error e
        | .ok s'' => feedP d inj s'' cs
      else feedP d inj s' cs

/-- `inj c rest`: the file object ends a line after `c` when `rest` is still to come.  A lone `'\r'` may or may not end a line. -/
structure Policy (inj : Char → List Char → Bool) : Prop where
  nl : ∀ cs, inj '\n' cs = true
  ordinary : ∀ c cs, isNL c = false → inj c cs = false
  crlf : ∀ cs, inj '\r' ('\n' :: cs) = false

theorem quote_notNL : isNL quote = false := by decide

theorem isNL_eq_false (c : Char) (h : isNL c = false) : (c == '\n') = false ∧ (c == '\r') = false := by
  unfold isNL at h
  rw [Bool.or_eq_false_iff] at h; exact h

theorem lf_policy : Policy lf :=
  ⟨fun _ => rfl, fun c _ h => (isNL_eq_false c h).1, fun _ => by show ('\r' == '\n') = false; decide⟩

theorem univ_policy : Policy univ := by
  refine ⟨fun _ => rfl, fun c cs h => ?_, fun cs => by simp [univ]⟩
  have := isNL_eq_false c h
  simp [univ, this.1, this.2]

theorem splitP_eq_nil (inj : Char → List Char → Bool) (t : List Char) : splitP inj t = [] ↔ t = [] := by
  cases t with
  | nil => simp [splitP]
  | cons c cs =>
    simp only [splitP]
    split
    · simp
    · cases splitP inj cs <;> simp

theorem splitP_cons_end {inj : Char → List Char → Bool} {c : Char} {cs : List Char} (h : (inj c cs || cs.isEmpty) = true) :
    splitP inj (c :: cs) = [c] :: splitP inj cs := by
  cases hi : inj c cs
  · have : cs = [] := by simpa [hi] using h
    subst this; simp [splitP, hi]
  · simp [splitP, hi]

theorem splitP_cons_mid {inj : Char → List Char → Bool} {c : Char} {cs : List Char} (h : (inj c cs || cs.isEmpty) = false) :
    ∃ l ls, splitP inj cs = l :: ls ∧ splitP inj (c :: cs) = (c :: l) :: ls := by
  rw [Bool.or_eq_false_iff] at h
  cases hs : splitP inj cs with
  | nil => rw [(splitP_eq_nil inj cs).mp hs] at h; cases h.2
  | cons l ls => exact ⟨l, ls, rfl, by simp [splitP, h.1, hs]⟩

theorem lines_cons_cons (d : Char) (s : St) (c : Char) (l : List Char) (ls : List (List Char)) :
    lines d s ((c :: l) :: ls) = match step d s (some c) with
      | .error e => .error e
      | .ok s' => lines d s' (l :: ls) := by
  simp only [lines, processLine, feed]
  cases step d s (some c) <;> rfl

theorem lines_splitP (d : Char) (inj : Char → List Char → Bool) (t : List Char) :
    ∀ s : St, lines d s (splitP inj t) = streamP d inj s t := by
  induction t with
  | nil => intro s; rfl
  | cons c cs ih =>
    intro s
    by_cases h : (inj c cs || cs.isEmpty) = true
    · simp only [splitP_cons_end h, streamP, h, lines, processLine, feed, ↓reduceIte, ih]
      cases step d s (some c) <;> rfl
    · rw [Bool.not_eq_true] at h
      obtain ⟨l, ls, hl, hsp⟩ := splitP_cons_mid h
      simp only [hsp, lines_cons_cons, streamP, h, Bool.false_eq_true, ↓reduceIte, ← hl, ih]

theorem streamP_snoc_nl (d : Char) (inj : Char → List Char → Bool) (p : Policy inj) (u : List Char) :
    ∀ s : St, streamP d inj s (u ++ ['\n']) = feedP d inj s (u ++ ['\n']) := by
  induction u with
  | nil => intro s; simp only [List.nil_append, streamP, feedP, p.nl, Bool.true_or, ↓reduceIte]
  | cons c cs ih =>
    intro s
    have hemp : (cs ++ ['\n']).isEmpty = false := by cases cs <;> rfl
    simp only [List.cons_append, streamP, feedP, hemp, Bool.or_false, ih]

theorem Policy.eq_lf {inj : Char → List Char → Bool} (p : Policy inj) {c : Char} (hc : c ≠ '\r') (cs : List Char) :
    inj c cs = lf c cs := by
  by_cases hn : c = '\n'
  · subst hn
    rw [p.nl]
    rfl
  · have hnl : isNL c = false := by simp [isNL, hn, hc]
    rw [p.ordinary c cs hnl]
    simp [lf, hn]

theorem splitP_congr {inj inj' : Char → List Char → Bool} :
    ∀ t : List Char, (∀ c ∈ t, ∀ cs, inj c cs = inj' c cs) → splitP inj t = splitP inj' t := by
  intro t
  induction t with
  | nil => intro _; rfl
  | cons c cs ih =>
    intro h
    simp only [splitP, h c List.mem_cons_self, ih fun x hx => h x (List.mem_cons_of_mem _ hx)]

theorem splitP_eq_lf_of_no_cr (inj : Char → List Char → Bool) (p : Policy inj) (t : List Char) (h : ∀ c ∈ t, c ≠ '\r') :
    splitP inj t = splitP lf t :=
  splitP_congr t fun c hc => p.eq_lf (h c hc)

/-- hypotheses on the delimiter under which the writer's output can be read back -/
structure GoodDelim (d : Char) : Prop where
  neQuote : d ≠ quote
  notNL : isNL d = false

/-- where the writer's next field is read from: a field can begin (START_RECORD or START_FIELD) and no text is pending -/
def Start (s : St) : Prop := (s.mode = .startRecord ∨ s.mode = .startField) ∧ s.field = []

/-- the modes in which a field can be closed by a separator or a line end -/
def Closable (s : St) : Prop := s.mode = .inField ∨ s.mode = .quoteInQuoted ∨ s.mode = .startField

/-- the line terminator `renderRecord` puts after a record -/
def term (crlf : Bool) : List Char := if crlf then ['\r', '\n'] else ['\n']

theorem renderRecord_eq (d : Char) (crlf : Bool) (r : List (Bool × List Char)) :
    renderRecord d crlf r = renderFields d r ++ term crlf := rfl

theorem plain_cons (d c : Char) (cs : List Char) :
    plain d (c :: cs) = true ↔ ((c == d) = false ∧ (c == quote) = false ∧ isNL c = false) ∧ plain d cs = true := by
  simp only [plain, List.all_cons, Bool.and_eq_true, Bool.not_eq_true', Bool.or_eq_false_iff, and_assoc]

theorem ne_of_isNL {c x : Char} (hc : isNL c = true) (hx : isNL x = false) : (c == x) = false := by
  rw [beq_eq_false_iff_ne]
  rintro rfl
  rw [hx] at hc
  cases hc

section step
variable {d : Char} {s : St} {c : Char}

/-- START_RECORD falls through into START_FIELD on every character that is not a line end -/
theorem step_start (hs : Start s) (hc : isNL c = false) :
    step d s (some c) = .ok (stepStartField d { s with mode := .startField } (some c)) := by
  rcases hs.1 with h | h
  · simp only [step, h, hc, Bool.false_eq_true, ↓reduceIte]
  · cases s
    cases h
    rfl

theorem step_start_quote (hs : Start s) : step d s (some quote) = .ok { s with mode := .inQuoted } := by
  simp [step_start hs quote_notNL, stepStartField, endsField, quote_notNL]

theorem step_start_plain (hs : Start s) (hd : (c == d) = false) (hq : (c == quote) = false) (hnl : isNL c = false) :
    step d s (some c) = .ok { s with mode := .inField, field := [c] } := by
  simp [step_start hs hnl, stepStartField, endsField, hnl, hq, hd, St.add, hs.2]

theorem step_startRecord_nl (hm : s.mode = .startRecord) (hc : isNL c = true) :
    step d s (some c) = .ok { s with mode := .eatCRNL } := by
  simp [step, hm, hc]

theorem step_inField_plain (hm : s.mode = .inField) (hd : (c == d) = false) (hnl : isNL c = false) :
    step d s (some c) = .ok (s.add c) := by
  simp [step, hm, endsField, hnl, hd]

theorem step_inQuoted_quote (hm : s.mode = .inQuoted) : step d s (some quote) = .ok { s with mode := .quoteInQuoted } := by
  simp [step, hm]

theorem step_inQuoted_char (hm : s.mode = .inQuoted) (hq : (c == quote) = false) : step d s (some c) = .ok (s.add c) := by
  simp [step, hm, hq]

theorem step_quoteInQuoted_quote (hm : s.mode = .quoteInQuoted) :
    step d s (some quote) = .ok { s.add quote with mode := .inQuoted } := by
  simp [step, hm]

theorem step_delim (g : GoodDelim d) (hs : Closable s ∨ Start s) :
    step d s (some d) = .ok { s with mode := .startField, field := [], fields := s.field.reverse :: s.fields } := by
  have hdq : (d == quote) = false := by simpa using g.neQuote
  rcases hs with (h | h | h) | h
  · simp [step, h, endsField, g.notNL, St.save]
  · simp [step, h, hdq, St.save]
  · simp [step, h, stepStartField, endsField, g.notNL, hdq, St.save]
  · simp [step_start h g.notNL, stepStartField, endsField, g.notNL, hdq, St.save]

theorem step_closable_nl (g : GoodDelim d) (hs : Closable s) (hc : isNL c = true) :
    step d s (some c) = .ok { s.save with mode := .eatCRNL } := by
  rcases hs with h | h | h
  · simp [step, h, endsField, hc, afterEnd]
  · simp [step, h, ne_of_isNL hc quote_notNL, ne_of_isNL hc g.notNL, hc]
  · simp [step, h, stepStartField, endsField, hc, afterEnd]

theorem step_eatCRNL_nl (hm : s.mode = .eatCRNL) (hc : isNL c = true) : step d s (some c) = .ok s := by
  simp [step, hm, hc]

theorem eol_inQuoted (hm : s.mode = .inQuoted) : eol d s = .ok s := by
  simp [eol, step, hm]

theorem eol_eatCRNL (hm : s.mode = .eatCRNL) :
    eol d s = .ok { s with mode := .startRecord, fields := [], out := s.fields.reverse :: s.out } := by
  simp [eol, step, hm]

end step

/-! In continuation-passing form (`feedP … (w ++ rest) = feedP … rest` from the state after `w`), because a policy looks one character
ahead: where `w` ends, what follows decides whether a line ends. -/

variable {d : Char} {inj : Char → List Char → Bool}

theorem feedP_nil (s : St) : feedP d inj s [] = .ok s := rfl

theorem feedP_cons {s s' : St} {c : Char} {cs : List Char} (h : step d s (some c) = .ok s') (hi : inj c cs = false) :
    feedP d inj s (c :: cs) = feedP d inj s' cs := by
  simp only [feedP, h, hi, Bool.false_eq_true, ↓reduceIte]

/-- one character after which the end of a line, if the policy puts one there, changes nothing -/
theorem feedP_cons_of_eol {s s' : St} {c : Char} {cs : List Char} (h : step d s (some c) = .ok s') (he : eol d s' = .ok s') :
    feedP d inj s (c :: cs) = feedP d inj s' cs := by
  simp only [feedP, h, he, ite_self]

theorem feedP_cons_eol {s s' s'' : St} {c : Char} {cs : List Char} (h : step d s (some c) = .ok s') (hi : inj c cs = true)
    (he : eol d s' = .ok s'') : feedP d inj s (c :: cs) = feedP d inj s'' cs := by
  simp only [feedP, h, hi, ↓reduceIte, he]

/-- the body of a quoted field: every character is kept, `""` gives `"`, line ends inside the quotes are part of the field -/
theorem feedP_escape (p : Policy inj) (f : List Char) : ∀ (s : St) (rest : List Char), s.mode = .inQuoted →
    feedP d inj s (escape f ++ rest) = feedP d inj { s with field := f.reverse ++ s.field } rest := by
  induction f with
  | nil => intro s rest _; rfl
  | cons c cs ih =>
    intro s rest hm
    by_cases hq : c = quote
    · subst hq
      simp only [escape, beq_self_eq_true, ↓reduceIte, List.cons_append]
      rw [feedP_cons (step_inQuoted_quote hm) (p.ordinary _ _ quote_notNL),
        feedP_cons (step_quoteInQuoted_quote rfl) (p.ordinary _ _ quote_notNL), ih _ rest rfl]
      simp [St.add, hm]
    · have hqb : (c == quote) = false := by simpa using hq
      simp only [escape, hqb, Bool.false_eq_true, ↓reduceIte, List.cons_append]
      rw [feedP_cons_of_eol (step_inQuoted_char hm hqb) (eol_inQuoted hm), ih (s.add c) rest hm]
      simp [St.add]

theorem feedP_plain (p : Policy inj) (f : List Char) : ∀ (s : St) (rest : List Char), s.mode = .inField → plain d f = true →
    feedP d inj s (f ++ rest) = feedP d inj { s with field := f.reverse ++ s.field } rest := by
  induction f with
  | nil => intro s rest _ _; rfl
  | cons c cs ih =>
    intro s rest hm hp
    obtain ⟨⟨hd, _, hnl⟩, hrest⟩ := (plain_cons d c cs).mp hp
    rw [List.cons_append, feedP_cons (step_inField_plain hm hd hnl) (p.ordinary c _ hnl), ih (s.add c) rest hm hrest]
    simp [St.add]

/-- state after the text of one field has been read (before its separator) -/
def afterField (s : St) (q : Bool) (f : List Char) : St :=
  if q then { s with mode := .quoteInQuoted, field := f.reverse }
  else if f.isEmpty then s
  else { s with mode := .inField, field := f.reverse }

theorem feedP_field (p : Policy inj) (s : St) (q : Bool) (f rest : List Char) (hs : Start s)
    (hq : q = true ∨ plain d f = true) :
    feedP d inj s (renderField q f ++ rest) = feedP d inj (afterField s q f) rest := by
  cases q with
  | true =>
    simp only [renderField, ↓reduceIte, List.cons_append, List.append_assoc]
    rw [feedP_cons (step_start_quote hs) (p.ordinary _ _ quote_notNL), feedP_escape p f _ _ rfl, List.nil_append,
      feedP_cons (step_inQuoted_quote rfl) (p.ordinary _ _ quote_notNL)]
    simp [afterField, hs.2]
  | false =>
    have hp : plain d f = true := by
      rcases hq with h | h
      · cases h
      · exact h
    cases f with
    | nil => rfl
    | cons c cs =>
      obtain ⟨⟨hd, hcq, hnl⟩, hrest⟩ := (plain_cons d c cs).mp hp
      simp only [renderField, Bool.false_eq_true, ↓reduceIte, List.cons_append]
      rw [feedP_cons (step_start_plain hs hd hcq hnl) (p.ordinary c _ hnl), feedP_plain p cs _ rest rfl hrest]
      simp [afterField]

/-- the invariant of a record: after a field's text the machine holds exactly that text, the saved fields and the records are
    untouched, and the field can be closed — unless it is a bare empty field at the start of a record, which is the blank line.
    The first conjunct is what a following delimiter needs (`feedP_delim`), the last what a following line end needs (`feedP_term`). -/
theorem afterField_props (s : St) (q : Bool) (f : List Char) (hs : Start s) :
    (Closable (afterField s q f) ∨ Start (afterField s q f)) ∧ (afterField s q f).field.reverse = f ∧
      (afterField s q f).fields = s.fields ∧ (afterField s q f).out = s.out ∧
      (Closable (afterField s q f) ∨ (s.mode = .startRecord ∧ q = false ∧ f = [])) := by
  unfold afterField
  cases q with
  | true => simp [Closable]
  | false =>
    cases f with
    | nil => rcases hs.1 with hm | hm <;> simp [hs, hs.2, Closable, hm]
    | cons c cs => simp [Closable]

theorem feedP_delim (p : Policy inj) (g : GoodDelim d) (s : St) (rest : List Char) (hs : Closable s ∨ Start s) :
    feedP d inj s (d :: rest) =
      feedP d inj { s with mode := .startField, field := [], fields := s.field.reverse :: s.fields } rest :=
  feedP_cons (step_delim g hs) (p.ordinary d rest g.notNL)

theorem feedP_term_of (p : Policy inj) {s t : St} (hst : ∀ c, isNL c = true → step d s (some c) = .ok t)
    (ht : t.mode = .eatCRNL) (crlf : Bool) (rest : List Char) :
    feedP d inj s (term crlf ++ rest) =
      feedP d inj { t with mode := .startRecord, fields := [], out := t.fields.reverse :: t.out } rest := by
  cases crlf
  · exact feedP_cons_eol (hst '\n' (by decide)) (p.nl _) (eol_eatCRNL ht)
  · exact (feedP_cons (hst '\r' (by decide)) (p.crlf _)).trans
      (feedP_cons_eol (step_eatCRNL_nl ht (by decide)) (p.nl _) (eol_eatCRNL ht))

theorem feedP_term (p : Policy inj) (g : GoodDelim d) (s : St) (crlf : Bool) (rest : List Char) (hs : Closable s) :
    feedP d inj s (term crlf ++ rest) =
      feedP d inj { mode := .startRecord, field := [], fields := [], out := (s.field.reverse :: s.fields).reverse :: s.out } rest :=
  feedP_term_of p (fun _ => step_closable_nl g hs) rfl crlf rest

/-- a blank line is the empty record -/
theorem feedP_term_empty (p : Policy inj) (s : St) (crlf : Bool) (rest : List Char) (hm : s.mode = .startRecord) :
    feedP d inj s (term crlf ++ rest) = feedP d inj { s with fields := [], out := s.fields.reverse :: s.out } rest := by
  rw [feedP_term_of p (fun _ => step_startRecord_nl hm) rfl crlf rest]
  -- the two records differ in `mode` only, and `hm` says it is `.startRecord` on both sides
  cases s
  simp_all

theorem feedP_fields (p : Policy inj) (g : GoodDelim d) (crlf : Bool) : ∀ (r : List (Bool × List Char)) (s : St) (rest : List Char),
    r ≠ [] → Start s → (∀ qf ∈ r, qf.1 = true ∨ plain d qf.2 = true) → (s.mode = .startRecord → r ≠ [(false, [])]) →
    feedP d inj s (renderFields d r ++ (term crlf ++ rest)) =
      feedP d inj { mode := .startRecord, field := [], fields := [], out := (s.fields.reverse ++ r.map (·.2)) :: s.out } rest := by
  intro r
  induction r with
  | nil => intro s _ h; exact absurd rfl h
  | cons qf rs ih =>
    intro s rest _ hs hq hex
    obtain ⟨q, f⟩ := qf
    have hqf : q = true ∨ plain d f = true := hq (q, f) List.mem_cons_self
    obtain ⟨hcs, hfield, hfields, hout, hcl⟩ := afterField_props s q f hs
    cases rs with
    | nil =>
      simp only [renderFields]
      rw [feedP_field p s q f _ hs hqf]
      -- a lone bare empty field at the start of a record is what `hex` excludes
      have hclos := hcl.resolve_right fun ⟨hm, hq0, hf0⟩ => hex hm (by rw [hq0, hf0])
      rw [feedP_term p g _ crlf rest hclos, hfield, hfields, hout]
      simp
    | cons qf' rs' =>
      simp only [renderFields, List.append_assoc, List.cons_append]
      rw [feedP_field p s q f _ hs hqf, feedP_delim p g _ _ hcs]
      have hq' : ∀ x ∈ qf' :: rs', x.1 = true ∨ plain d x.2 = true := fun x hx => hq x (List.mem_cons_of_mem _ hx)
      rw [ih _ rest (List.cons_ne_nil _ _) ⟨Or.inr rfl, rfl⟩ hq' (fun h => by cases h)]
      simp [hfield, hfields, hout]

theorem feedP_record (p : Policy inj) (g : GoodDelim d) (crlf : Bool) (r : List (Bool × List Char)) (out : List (List (List Char)))
    (rest : List Char) (hw : wellQuoted d r = true) :
    feedP d inj { out := out } (renderRecord d crlf r ++ rest) = feedP d inj { out := r.map (·.2) :: out } rest := by
  simp only [wellQuoted, Bool.and_eq_true, List.all_eq_true, Bool.or_eq_true, Bool.not_eq_true',
    beq_eq_false_iff_ne] at hw
  cases r with
  | nil => exact feedP_term_empty p { out := out } crlf rest rfl
  | cons qf rs =>
    rw [renderRecord_eq, List.append_assoc]
    exact feedP_fields p g crlf (qf :: rs) { out := out } rest (List.cons_ne_nil _ _) ⟨Or.inl rfl, rfl⟩ hw.1
      (fun _ => hw.2)

theorem feedP_text (p : Policy inj) (g : GoodDelim d) (crlf : Bool) : ∀ (rs : List (List (Bool × List Char)))
    (out : List (List (List Char))), (∀ r ∈ rs, wellQuoted d r = true) →
    feedP d inj { out := out } (renderText d crlf rs) = .ok { out := (rs.map (·.map (·.2))).reverse ++ out } := by
  intro rs
  induction rs with
  | nil => intro out _; rfl
  | cons r rs ih =>
    intro out hw
    simp only [renderText]
    rw [feedP_record p g crlf r out _ (hw r List.mem_cons_self), ih _ (fun x hx => hw x (List.mem_cons_of_mem _ hx))]
    simp

theorem renderText_append (d : Char) (crlf : Bool) (a b : List (List (Bool × List Char))) :
    renderText d crlf (a ++ b) = renderText d crlf a ++ renderText d crlf b := by
  induction a with
  | nil => rfl
  | cons x xs ih => simp [renderText, ih]

theorem renderText_ends_nl (d : Char) (crlf : Bool) (r : List (Bool × List Char)) (rs : List (List (Bool × List Char))) :
    ∃ u, renderText d crlf (r :: rs) = u ++ ['\n'] := by
  induction rs generalizing r with
  | nil =>
    cases crlf with
    | false => exact ⟨renderFields d r, by simp [renderText, renderRecord_eq, term]⟩
    | true => exact ⟨renderFields d r ++ ['\r'], by simp [renderText, renderRecord_eq, term]⟩
  | cons r' rs' ih =>
    obtain ⟨u, hu⟩ := ih r'
    exact ⟨renderRecord d crlf r ++ u, by rw [renderText, hu, List.append_assoc]⟩

end Serif.CsvLex
