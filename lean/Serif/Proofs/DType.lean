/- `promote` as join, the `infer_dtype` loop in closed form, `belongs` as the order of `join`. -/
import Serif.Proofs.Lattice

namespace Serif

theorem foldl_join_left (l : List Kind) (a b : Kind) :
    l.foldl Kind.join (a.join b) = a.join (l.foldl Kind.join b) := by
  induction l generalizing b with
  | nil => rfl
  | cons k l ih => simp only [List.foldl_cons]; rw [Kind.join_assoc, ih]

theorem le_foldl_join (l : List Kind) (x b : Kind) (hx : x ∈ b :: l) : Kind.le x (l.foldl Kind.join b) := by
  induction l generalizing b x with
  | nil =>
    rw [List.mem_singleton.mp hx]
    exact Kind.le_refl b
  | cons k l ih =>
    rw [List.foldl_cons]
    rcases List.mem_cons.mp hx with rfl | hx
    · exact Kind.le_trans (Kind.le_join_left x k) (ih _ _ List.mem_cons_self)
    · rcases List.mem_cons.mp hx with rfl | hx
      · exact Kind.le_trans (Kind.le_join_right b x) (ih _ _ List.mem_cons_self)
      · exact ih _ _ (List.mem_cons_of_mem _ hx)

theorem foldl_join_le (l : List Kind) (b u : Kind) (h : ∀ x ∈ b :: l, Kind.le x u) :
    Kind.le (l.foldl Kind.join b) u := by
  unfold Kind.le
  induction l generalizing b with
  | nil => exact h b List.mem_cons_self
  | cons k l ih =>
    refine ih _ fun x hx => ?_
    rcases List.mem_cons.mp hx with rfl | hx
    · show (b.join k).join u = u
      rw [Kind.join_assoc, h k (by simp), h b List.mem_cons_self]
    · exact h x (by simp [hx])

theorem foldl_join_congr {k k' : Kind} {ks ks' : List Kind} (h : ∀ x, x ∈ k :: ks ↔ x ∈ k' :: ks') :
    ks.foldl Kind.join k = ks'.foldl Kind.join k' :=
  Kind.le_antisymm (foldl_join_le ks k _ fun x hx => le_foldl_join _ _ _ ((h x).mp hx))
    (foldl_join_le ks' k' _ fun x hx => le_foldl_join _ _ _ ((h x).mpr hx))

theorem promote_ty (d : DType) (v : Kind) :
    promote d (.ty v) = { kind := d.kind.join v, nullable := d.nullable } := by
  obtain ⟨k, n⟩ := d
  have keep : ∀ nk : Kind, (if nk ≠ k then (⟨nk, n⟩ : DType) else ⟨k, n⟩) = ⟨nk, n⟩ := by
    intro nk
    split <;> simp_all
  by_cases h : v = k
  · subst h; simp [promote, Kind.join]
  · simp only [promote, Kind.join, keep, if_neg h, if_neg (Ne.symm h)]
    by_cases hn : (k.isNumeric && v.isNumeric) = true
    · simp only [hn, if_true]
    · simp only [hn]
      by_cases ht : (k.isTemporal && v.isTemporal) = true
      · -- two different temporal kinds: one of them is `datetime`
        simp only [ht, if_true]
        simp only [Bool.and_eq_true, Kind.isTemporal_iff] at ht
        grind
      · simp only [ht]
        by_cases ho : k = .object <;> simp [ho]

theorem promote_none (d : DType) :
    promote d .none = { kind := d.kind, nullable := true } := by
  obtain ⟨k, n⟩ := d
  cases n <;> rfl

theorem kindsOf_cons_none (l : List Tag) : kindsOf (.none :: l) = kindsOf l := by
  simp [kindsOf, List.filterMap_cons, inferKind]

theorem kindsOf_cons_ty (k : Kind) (l : List Tag) : kindsOf (.ty k :: l) = k :: kindsOf l := by
  simp [kindsOf, inferKind]

theorem inferFold_some (d : DType) (b : Bool) (l : List Tag) :
    l.foldl inferStep { dtype := some d, leadingNone := b } =
      { dtype := some { kind := (kindsOf l).foldl Kind.join d.kind,
                        nullable := d.nullable || l.contains .none },
        leadingNone := b } := by
  induction l generalizing d with
  | nil => simp [kindsOf]
  | cons t l ih =>
    cases t with
    | none =>
      simp only [List.foldl_cons, inferStep, promote_none, ih, kindsOf_cons_none]
      simp
    | ty k =>
      simp only [List.foldl_cons, inferStep, promote_ty, ih, kindsOf_cons_ty]
      simp

theorem inferFold_none (b : Bool) (l : List Tag) :
    (l.foldl inferStep { dtype := none, leadingNone := b }).dtype =
      match kindsOf l with
      | [] => none
      | k :: ks => some { kind := ks.foldl Kind.join k, nullable := b || l.contains .none } := by
  induction l generalizing b with
  | nil => simp [kindsOf]
  | cons t l ih =>
    cases t with
    | none =>
      simp only [List.foldl_cons, inferStep, inferKind, kindsOf_cons_none]
      rw [ih]
      cases kindsOf l <;> simp
    | ty k =>
      simp only [List.foldl_cons, inferStep, inferKind, kindsOf_cons_ty, inferFold_some]
      simp

theorem infer_singleton (k : Kind) : infer [.ty k] = ⟨k, false⟩ := by
  simp [infer, inferStep, inferKind]

theorem infer_eq_spec (l : List Tag) : infer l = inferSpec l := by
  unfold infer inferSpec
  rw [inferFold_none]
  cases kindsOf l <;> simp

theorem inferSpec_congr {l₁ l₂ : List Tag} (h : ∀ t, t ∈ l₁ ↔ t ∈ l₂) : inferSpec l₁ = inferSpec l₂ := by
  have hk : ∀ k, k ∈ kindsOf l₁ ↔ k ∈ kindsOf l₂ := fun k => by simp only [kindsOf, List.mem_filterMap, h]
  have hn : l₁.contains .none = l₂.contains .none := by simp only [List.contains_eq_mem, h]
  unfold inferSpec
  generalize kindsOf l₁ = K₁ at hk ⊢
  generalize kindsOf l₂ = K₂ at hk ⊢
  cases K₁ with
  | nil =>
    cases K₂ with
    | nil => rfl
    | cons k' ks' => cases (hk k').mpr List.mem_cons_self
  | cons k ks =>
    cases K₂ with
    | nil => cases (hk k).mp List.mem_cons_self
    | cons k' ks' => simp only [hn, foldl_join_congr hk]

theorem promoteVec_some {a b k : Kind} (h : promoteVec a b = some k) : k = b := by
  unfold promoteVec at h
  grind

theorem belongs_ty_iff (K v : Kind) (n : Bool) : belongs ⟨K, n⟩ (.ty v) = true ↔ Kind.le v K := by
  simp only [belongs, Kind.le, Bool.or_eq_true, Bool.and_eq_true, decide_eq_true_eq]
  constructor
  · rintro (((rfl | rfl) | ⟨_, h⟩) | ⟨rfl, rfl⟩)
    · exact Kind.join_object v
    · exact Kind.join_idem v
    · exact h
    · rfl
  · intro h
    by_cases hvK : v = K
    · exact Or.inl (Or.inl (Or.inr hvK))
    by_cases hn : v.isNumeric = true ∧ K.isNumeric = true
    · exact Or.inl (Or.inr ⟨hn, h⟩)
    by_cases ht : v.isTemporal = true ∧ K.isTemporal = true
    · -- two different temporal kinds join to `datetime`, so `v` is the other one
      have hK : K = .datetime := by simpa [Kind.join, hvK, hn, ht] using h.symm
      rcases (Kind.isTemporal_iff v).mp ht.1 with rfl | rfl
      · exact Or.inr ⟨rfl, hK⟩
      · exact absurd hK.symm hvK
    · have hK : K = .object := by simpa [Kind.join, hvK, hn, ht] using h.symm
      exact Or.inl (Or.inl (Or.inl hK))

theorem belongs_self (k : Kind) (n : Bool) : belongs ⟨k, n⟩ (.ty k) = true := by
  simp [belongs]

theorem belongs_object (n : Bool) (v : Kind) : belongs ⟨.object, n⟩ (.ty v) = true := by
  simp [belongs]

theorem belongs_ty_nullable (k v : Kind) (n n' : Bool) :
    belongs ⟨k, n⟩ (.ty v) = belongs ⟨k, n'⟩ (.ty v) := by
  simp [belongs]

theorem belongs_object_nullable (x : Tag) : belongs ⟨.object, true⟩ x = true := by
  cases x <;> simp [belongs]

theorem belongs_of_le {d d' : DType} {x : Tag} (hk : Kind.le d.kind d'.kind)
    (hn : d.nullable = true → d'.nullable = true) (h : belongs d x = true) : belongs d' x = true := by
  obtain ⟨k, n⟩ := d
  obtain ⟨k', n'⟩ := d'
  cases x with
  | none => exact hn h
  | ty v =>
    rw [belongs_ty_iff] at *
    exact Kind.le_trans h hk

/-- `validate_scalar` accepts exactly the values that belong, for every kind except `object`
    (an `object` column is never validated: the code skips the call).  Its clauses list the pairs of the two
    ladders one by one, so this is a comparison of two tables. -/
theorem validates_eq_belongs (d : DType) (t : Tag) (h : d.kind ≠ .object) :
    validates d t = belongs d t := by
  obtain ⟨k, n⟩ := d
  cases t with
  | none => rfl
  | ty v =>
    -- the flag plays no part for a non-None value; with it fixed the cases on the ladders are closed terms
    show validates ⟨k, false⟩ (.ty v) = belongs ⟨k, false⟩ (.ty v)
    cases k
    case object => exact absurd rfl h
    case bool | int | float | complex | date | datetime =>
      cases v
      case other => rfl
      all_goals decide +kernel
    -- off the ladders both sides say `v = k`
    all_goals simp [validates, belongs, Kind.isNumeric]

end Serif
