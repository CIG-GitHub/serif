/-
  The alias-registry model (Model/AliasHeap.lean).  Both registry invariants (`RegExact` here, `TInv` in
  Proofs/AliasTracker.lean) are used through `liveRefs`; the raw lists `st.reg s` are argued about only for `Fresh` and
  `RegExactExcept.absent`.
-/
import Serif.Model.AliasHeap

namespace Serif
namespace AState

/-- the registry is exact: the live references registered under a storage identity are exactly the live
    objects using that storage, each once; dead references are ignored -/
structure RegExact (st : AState) : Prop where
  users : ∀ s o, st.store o = some s → o ∈ st.reg s
  exact : ∀ s o, o ∈ st.reg s → st.alive o = true → st.store o = some s
  nodup : ∀ s, (st.liveRefs s).Nodup
  fresh : ∀ o, st.next ≤ o → st.store o = none ∧ ∀ s, o ∉ st.reg s

/-- the same, except that the live object `o` is registered nowhere (the state between `unregister` and `register`) -/
structure RegExactExcept (st : AState) (o : Nat) : Prop where
  absent : ∀ s, o ∉ st.reg s
  users : ∀ s o', o' ≠ o → st.store o' = some s → o' ∈ st.reg s
  exact : ∀ s o', o' ∈ st.reg s → st.alive o' = true → st.store o' = some s
  nodup : ∀ s, (st.liveRefs s).Nodup
  fresh : ∀ o', st.next ≤ o' → o' ≠ o → st.store o' = none ∧ ∀ s, o' ∉ st.reg s
  lt : o < st.next

theorem alive_iff_store (st : AState) (o : Nat) : st.alive o = true ↔ ∃ s, st.store o = some s := by
  simp [alive, Option.isSome_iff_exists]

theorem alive_of_store {st : AState} {o s : Nat} (h : st.store o = some s) : st.alive o = true := by
  simp [alive, h]

theorem alive_setStore (st : AState) (o : Nat) (x : Option Nat) (a : Nat) :
    (st.setStore o x).alive a = if a = o then x.isSome else st.alive a := by
  simp only [alive, setStore]; split <;> rfl

@[simp] theorem setData_store (st : AState) (s : Nat) (c : List Nat) : (st.setData s c).store = st.store := rfl
@[simp] theorem setData_reg (st : AState) (s : Nat) (c : List Nat) : (st.setData s c).reg = st.reg := rfl
@[simp] theorem setData_next (st : AState) (s : Nat) (c : List Nat) : (st.setData s c).next = st.next := rfl

@[simp] theorem setStore_store (st : AState) (o : Nat) (x : Option Nat) (a : Nat) :
    (st.setStore o x).store a = if a = o then x else st.store a := rfl
@[simp] theorem setStore_data (st : AState) (o : Nat) (x : Option Nat) : (st.setStore o x).data = st.data := rfl
@[simp] theorem setStore_reg (st : AState) (o : Nat) (x : Option Nat) : (st.setStore o x).reg = st.reg := rfl
@[simp] theorem setStore_next (st : AState) (o : Nat) (x : Option Nat) : (st.setStore o x).next = st.next := rfl

section
variable (st : AState)

@[simp] theorem register_store (o s : Nat) : (st.register o s).store = st.store := by
  unfold register; split <;> rfl
@[simp] theorem register_data (o s : Nat) : (st.register o s).data = st.data := by
  unfold register; split <;> rfl
@[simp] theorem register_next (o s : Nat) : (st.register o s).next = st.next := by
  unfold register; split <;> rfl

@[simp] theorem unregister_store (o s : Nat) : (st.unregister o s).store = st.store := by
  unfold unregister; split <;> rfl
@[simp] theorem unregister_data (o s : Nat) : (st.unregister o s).data = st.data := by
  unfold unregister; split <;> rfl
@[simp] theorem unregister_next (o s : Nat) : (st.unregister o s).next = st.next := by
  unfold unregister; split <;> rfl

@[simp] theorem checkWritable_store (s : Nat) : (st.checkWritable s).1.store = st.store := by
  unfold checkWritable; split <;> rfl
@[simp] theorem checkWritable_data (s : Nat) : (st.checkWritable s).1.data = st.data := by
  unfold checkWritable; split <;> rfl
@[simp] theorem checkWritable_next (s : Nat) : (st.checkWritable s).1.next = st.next := by
  unfold checkWritable; split <;> rfl

theorem register_alive (o s x : Nat) : (st.register o s).alive x = st.alive x := by
  simp [alive]

theorem unregister_alive (o s x : Nat) : (st.unregister o s).alive x = st.alive x := by
  simp [alive]

theorem checkWritable_alive (s x : Nat) : (st.checkWritable s).1.alive x = st.alive x := by
  simp [alive]

theorem checkWritable_view (s x : Nat) : (st.checkWritable s).1.view x = st.view x := by
  simp [view]

theorem swapStorage_store (o s' x : Nat) :
    (st.swapStorage o s').store x = if x = o ∧ st.alive o = true then some s' else st.store x := by
  unfold swapStorage
  cases h : st.store o with
  | none => by_cases e : x = o <;> simp [e, alive, h]
  | some s => by_cases e : x = o <;> simp [e, alive, h]

theorem swapStorage_alive (o s' x : Nat) : (st.swapStorage o s').alive x = st.alive x := by
  unfold alive
  rw [swapStorage_store]
  split
  · next e => simpa [alive, e.1] using e.2
  · rfl

theorem swapStorage_data (o s' : Nat) : (st.swapStorage o s').data = st.data := by
  unfold swapStorage; split <;> simp

theorem setData_register (o s x : Nat) (c : List Nat) :
    (st.setData x c).register o s = (st.register o s).setData x c := by
  unfold register
  rw [show (st.setData x c).liveRefs s = st.liveRefs s from rfl]
  split <;> rfl

theorem setData_unregister (o s x : Nat) (c : List Nat) :
    (st.setData x c).unregister o s = (st.unregister o s).setData x c := by
  unfold unregister
  rw [show (st.setData x c).liveRefs s = st.liveRefs s from rfl, setData_reg]
  split <;> rfl

theorem setData_swapStorage (o s' x : Nat) (c : List Nat) :
    (st.setData x c).swapStorage o s' = (st.swapStorage o s').setData x c := by
  unfold swapStorage
  rw [setData_store]
  cases st.store o with
  | none => rfl
  | some s =>
    simp only [setData_unregister]
    exact setData_register ((st.unregister o s).setStore o (some s')) o s' x c

theorem mem_liveRefs (s o : Nat) : o ∈ st.liveRefs s ↔ o ∈ st.reg s ∧ st.alive o = true := by
  simp [liveRefs]

theorem liveRefs_filter_alive (s : Nat) : (st.liveRefs s).filter st.alive = st.liveRefs s := by
  simp [liveRefs, List.filter_filter]

theorem liveRefs_setReg (s s' : Nat) (l : List Nat) :
    (st.setReg s l).liveRefs s' = if s' = s then l.filter st.alive else st.liveRefs s' := by
  simp only [liveRefs, setReg]; split <;> rfl

theorem liveRefs_setStore_of_not_mem (o : Nat) (x : Option Nat) (h : ∀ s, o ∉ st.reg s) (s : Nat) :
    (st.setStore o x).liveRefs s = st.liveRefs s :=
  List.filter_congr fun a ha => by rw [alive_setStore, if_neg fun (e : a = o) => h s (e ▸ ha)]

theorem liveRefs_setStore_some (o s' : Nat) (h : st.alive o = true) (s : Nat) :
    (st.setStore o (some s')).liveRefs s = st.liveRefs s :=
  List.filter_congr fun a _ => by
    rw [alive_setStore]
    split
    · next e => rw [e, h]; rfl
    · rfl

theorem liveRefs_setStore_none (o s : Nat) :
    (st.setStore o none).liveRefs s = (st.liveRefs s).filter (· != o) := by
  rw [liveRefs, liveRefs, List.filter_filter]
  exact List.filter_congr fun a _ => by
    rw [alive_setStore]
    by_cases e : a = o <;> simp [e]

/-- `check_writable` prunes, and pruning is invisible through `liveRefs` -/
theorem liveRefs_checkWritable (s s' : Nat) : (st.checkWritable s).1.liveRefs s' = st.liveRefs s' := by
  unfold checkWritable
  split
  · rfl
  · rw [liveRefs_setReg]
    split
    · next e => rw [e, liveRefs_filter_alive]
    · rfl

theorem liveRefs_unregister (o s s' : Nat) :
    (st.unregister o s).liveRefs s' = if s' = s then (st.liveRefs s).filter (· != o) else st.liveRefs s' := by
  unfold unregister
  split
  · next he =>
    split
    · next e => simp [e, liveRefs, List.isEmpty_iff.mp he]
    · rfl
  · rw [liveRefs_setReg]
    split
    · exact List.filter_eq_self.mpr fun a ha => ((mem_liveRefs st s a).mp (List.mem_filter.mp ha).1).2
    · rfl

theorem liveRefs_register (o s s' : Nat) (ho : st.alive o = true) :
    (st.register o s).liveRefs s' = if s' = s ∧ o ∉ st.liveRefs s then st.liveRefs s ++ [o] else st.liveRefs s' := by
  unfold register
  by_cases hc : o ∈ st.liveRefs s
  · simp [hc]
  · simp only [List.contains_eq_mem, hc, decide_false, Bool.false_eq_true, if_false, liveRefs_setReg,
      not_false_eq_true, and_true]
    split
    · simp [List.filter_append, liveRefs_filter_alive, ho]
    · rfl

theorem mem_liveRefs_register {st : AState} {o s s' x : Nat} (ho : st.alive o = true) :
    x ∈ (st.register o s).liveRefs s' ↔ x ∈ st.liveRefs s' ∨ (s' = s ∧ x = o) := by
  rw [liveRefs_register st o s s' ho]
  split
  · next h => simp [h.1]
  · next h =>
    refine ⟨.inl, fun hx => hx.elim id ?_⟩
    rintro ⟨rfl, rfl⟩
    exact Classical.not_not.mp fun hn => h ⟨rfl, hn⟩

theorem nodup_liveRefs_register {st : AState} {o s s' : Nat} (ho : st.alive o = true) (nd : (st.liveRefs s').Nodup) :
    ((st.register o s).liveRefs s').Nodup := by
  rw [liveRefs_register st o s s' ho]
  split
  · next h =>
    obtain ⟨rfl, hn⟩ := h
    exact List.nodup_append.mpr ⟨nd, by simp, fun a ha b hb e => hn (List.mem_singleton.mp hb ▸ e ▸ ha)⟩
  · exact nd

theorem mem_liveRefs_unregister {st : AState} {o s s' x : Nat} :
    x ∈ (st.unregister o s).liveRefs s' ↔ x ∈ st.liveRefs s' ∧ ¬ (s' = s ∧ x = o) := by
  rw [liveRefs_unregister]
  split
  · next e => simp [e]
  · next e => simp [e]

theorem nodup_liveRefs_unregister {st : AState} {o s s' : Nat} (nd : (st.liveRefs s').Nodup) :
    ((st.unregister o s).liveRefs s').Nodup := by
  rw [liveRefs_unregister]
  split
  · next e => exact (e ▸ nd).filter _
  · exact nd

theorem mem_reg_or_eq_of_mem_register {st : AState} {o s s' x : Nat} (h : x ∈ (st.register o s).reg s') : x ∈ st.reg s' ∨ x = o := by
  unfold register at h
  split at h
  · exact .inl h
  · simp only [setReg] at h
    split at h
    · next e =>
      rw [e]
      exact (List.mem_append.mp h).imp (fun h => ((mem_liveRefs st s x).mp h).1) (by simp)
    · exact .inl h

theorem mem_reg_unregister {st : AState} {o s s' x : Nat} :
    x ∈ (st.unregister o s).reg s' ↔ if s' = s then x ∈ st.liveRefs s ∧ x ≠ o else x ∈ st.reg s' := by
  unfold unregister
  split
  · next he =>
    split
    · next e => simp [e, liveRefs, List.isEmpty_iff.mp he]
    · rfl
  · simp only [setReg]; split <;> simp

theorem mem_reg_of_mem_checkWritable {st : AState} {s s' x : Nat} (h : x ∈ (st.checkWritable s).1.reg s') : x ∈ st.reg s' := by
  unfold checkWritable at h
  split at h
  · exact h
  · simp only [setReg] at h
    split at h
    · next e => rw [e]; exact ((mem_liveRefs st s x).mp h).1
    · exact h

/-- nothing refers to an object not yet born (the field `fresh` of `RegExact`) -/
def Fresh (st : AState) : Prop := ∀ o, st.next ≤ o → st.store o = none ∧ ∀ s, o ∉ st.reg s

theorem Fresh.lt_of_alive {st : AState} (h : Fresh st) {o : Nat} (ho : st.alive o = true) : o < st.next :=
  Nat.lt_of_not_le fun l => by simp [alive, (h o l).1] at ho

theorem Fresh.register {st : AState} (h : Fresh st) {o : Nat} (s : Nat) (ho : o < st.next) : Fresh (st.register o s) := by
  intro x hx
  rw [register_next] at hx
  rw [register_store]
  refine ⟨(h x hx).1, fun s' hm => ?_⟩
  rcases mem_reg_or_eq_of_mem_register hm with hm | rfl
  · exact (h x hx).2 s' hm
  · exact Nat.lt_irrefl _ (Nat.lt_of_lt_of_le ho hx)

theorem Fresh.unregister {st : AState} (h : Fresh st) (o s : Nat) : Fresh (st.unregister o s) := by
  intro x hx
  rw [unregister_next] at hx
  rw [unregister_store]
  refine ⟨(h x hx).1, fun s' hm => ?_⟩
  rw [mem_reg_unregister] at hm
  split at hm
  · exact (h x hx).2 _ ((mem_liveRefs st _ x).mp hm.1).1
  · exact (h x hx).2 _ hm

theorem Fresh.checkWritable {st : AState} (h : Fresh st) (s : Nat) : Fresh (st.checkWritable s).1 := by
  intro x hx
  rw [checkWritable_next] at hx
  rw [checkWritable_store]
  exact ⟨(h x hx).1, fun s' hm => (h x hx).2 s' (mem_reg_of_mem_checkWritable hm)⟩

/-- garbage collection of any object, or new storage for one already born -/
theorem Fresh.setStore {st : AState} (h : Fresh st) {o : Nat} {x : Option Nat} (ho : x = none ∨ o < st.next) :
    Fresh (st.setStore o x) := by
  intro y hy
  have hy : st.next ≤ y := hy
  refine ⟨?_, (h y hy).2⟩
  rw [setStore_store]
  split
  · next e =>
    rcases ho with ho | ho
    · exact ho
    · exact absurd (e ▸ ho) (Nat.not_lt.mpr hy)
  · exact (h y hy).1

theorem Fresh.born {st : AState} (h : Fresh st) (x : Option Nat) :
    Fresh (({ st with next := st.next + 1 } : AState).setStore st.next x) := by
  intro y hy
  have hy : st.next < y := hy
  refine ⟨?_, (h y (Nat.le_of_lt hy)).2⟩
  rw [setStore_store]
  rw [if_neg (Nat.ne_of_gt hy)]
  exact (h y (Nat.le_of_lt hy)).1

theorem checkWritable_snd (s : Nat) : (st.checkWritable s).2 = decide ((st.liveRefs s).length ≤ 1) := by
  unfold checkWritable
  split
  · next he => simp [liveRefs, List.isEmpty_iff.mp he]
  · rfl

theorem checkWritable_refuses_iff (s : Nat) (nd : (st.liveRefs s).Nodup) :
    (st.checkWritable s).2 = false ↔ ∃ a b, a ≠ b ∧ a ∈ st.liveRefs s ∧ b ∈ st.liveRefs s := by
  rw [checkWritable_snd, decide_eq_false_iff_not, Nat.not_le]
  constructor
  · intro hl
    match hL : st.liveRefs s, hl with
    | a :: b :: t, _ => exact ⟨a, b, fun e => by simp [hL, e] at nd, by simp, by simp⟩
  · rintro ⟨a, b, hne, ha, hb⟩
    match hL : st.liveRefs s, ha, hb with
    | [x], ha, hb => simp at ha hb; exact absurd (ha.trans hb.symm) hne
    | _ :: _ :: _, _, _ => simp

theorem create_store (s x : Nat) (c : List Nat) :
    (st.step (.create s c)).1.store x = if x = st.next then some s else st.store x := by
  simp [step]

theorem write_cases (o s' : Nat) (c : List Nat) {P : AState × Bool → Prop}
    (dead : st.store o = none → P (st, false))
    (unchecked : st.store o = some 0 → P ((st.setData s' c).swapStorage o s', false))
    (accepted : ∀ s, st.store o = some s → s ≠ 0 → (st.checkWritable s).2 = true →
      P (((st.checkWritable s).1.setData s' c).swapStorage o s', false))
    (refused : ∀ s, st.store o = some s → s ≠ 0 → (st.checkWritable s).2 = false → P ((st.checkWritable s).1, true)) :
    P (st.step (.write o s' c)) := by
  simp only [step]
  split
  · next ho => exact dead ho
  · next s ho =>
    split
    · next hs => exact unchecked (hs ▸ ho)
    · next hs =>
      split
      · next hw => exact accepted s ho hs hw
      · next hw => exact refused s ho hs (Bool.eq_false_iff.mpr hw)

theorem write_store_ne (o s' x : Nat) (c : List Nat) (hx : x ≠ o) :
    (st.step (.write o s' c)).1.store x = st.store x :=
  write_cases st o s' c (P := fun r => r.1.store x = st.store x)
    (dead := fun _ => rfl)
    (unchecked := fun _ => by simp [swapStorage_store, hx])
    (accepted := fun _ _ _ _ => by simp [swapStorage_store, hx])
    (refused := fun _ _ _ _ => by simp)

theorem write_data (o s' : Nat) (c : List Nat) :
    (st.step (.write o s' c)).1.data = st.data ∨ (st.step (.write o s' c)).1.data = (st.setData s' c).data :=
  write_cases st o s' c (P := fun r => r.1.data = st.data ∨ r.1.data = (st.setData s' c).data)
    (dead := fun _ => .inl rfl)
    (unchecked := fun _ => .inr (swapStorage_data _ o s'))
    (accepted := fun _ _ _ _ => .inr (by simp [swapStorage_data, setData]))
    (refused := fun s _ _ _ => .inl (checkWritable_data st s))

theorem write_snd (o s s' : Nat) (c : List Nat) (ho : st.store o = some s) (hs : s ≠ 0) :
    (st.step (.write o s' c)).2 = !(st.checkWritable s).2 :=
  write_cases st o s' c (P := fun r => r.2 = !(st.checkWritable s).2)
    (dead := fun h => by simp [ho] at h)
    (unchecked := fun h => absurd (Option.some.inj (ho.symm.trans h)) hs)
    (accepted := fun t ht _ hw => by
      cases Option.some.inj (ho.symm.trans ht)
      simp [hw])
    (refused := fun t ht _ hw => by
      cases Option.some.inj (ho.symm.trans ht)
      simp [hw])

theorem write_fst_of_refused {st : AState} {o s' : Nat} {c : List Nat} (hr : (st.step (.write o s' c)).2 = true) :
    ∃ s, (st.step (.write o s' c)).1 = (st.checkWritable s).1 :=
  write_cases st o s' c (P := fun r => r.2 = true → ∃ s, r.1 = (st.checkWritable s).1)
    (dead := fun _ h => nomatch h)
    (unchecked := fun _ h => nomatch h)
    (accepted := fun _ _ _ _ h => nomatch h)
    (refused := fun s _ _ _ _ => ⟨s, rfl⟩) hr

theorem RegExact.mem_liveRefs_iff {st : AState} (h : RegExact st) (s o : Nat) :
    o ∈ st.liveRefs s ↔ st.store o = some s := by
  rw [mem_liveRefs]
  exact ⟨fun ⟨a, b⟩ => h.exact s o a b, fun e => ⟨h.users s o e, alive_of_store e⟩⟩

theorem RegExact.of_liveRefs {st : AState} (hm : ∀ s o, o ∈ st.liveRefs s ↔ st.store o = some s)
    (nd : ∀ s, (st.liveRefs s).Nodup) (fr : ∀ o, st.next ≤ o → st.store o = none ∧ ∀ s, o ∉ st.reg s) : RegExact st :=
  { users := fun s o h => ((mem_liveRefs st s o).mp ((hm s o).mpr h)).1
    exact := fun s o h ha => (hm s o).mp ((mem_liveRefs st s o).mpr ⟨h, ha⟩)
    nodup := nd
    fresh := fr }

theorem RegExactExcept.mem_liveRefs_iff {st : AState} {o : Nat} (h : RegExactExcept st o) (s x : Nat) :
    x ∈ st.liveRefs s ↔ x ≠ o ∧ st.store x = some s := by
  rw [mem_liveRefs]
  exact ⟨fun ⟨a, b⟩ => ⟨fun e => h.absent s (e ▸ a), h.exact s x a b⟩, fun ⟨a, b⟩ => ⟨h.users s x a b, alive_of_store b⟩⟩

theorem RegExactExcept.toFresh {st : AState} {o : Nat} (h : RegExactExcept st o) : Fresh st :=
  fun x hx => h.fresh x hx (by have := h.lt; omega)

theorem RegExactExcept.of_liveRefs {st : AState} {o : Nat} (ab : ∀ s, o ∉ st.reg s)
    (hm : ∀ s x, x ∈ st.liveRefs s ↔ x ≠ o ∧ st.store x = some s) (nd : ∀ s, (st.liveRefs s).Nodup)
    (fr : ∀ o', st.next ≤ o' → o' ≠ o → st.store o' = none ∧ ∀ s, o' ∉ st.reg s) (lt : o < st.next) : RegExactExcept st o :=
  { absent := ab
    users := fun s x hx h => ((mem_liveRefs st s x).mp ((hm s x).mpr ⟨hx, h⟩)).1
    exact := fun s x h ha => ((hm s x).mp ((mem_liveRefs st s x).mpr ⟨h, ha⟩)).2
    nodup := nd
    fresh := fr
    lt := lt }

theorem regExact_init : RegExact init := by
  constructor <;> simp [init, liveRefs]

theorem regExact_setData (s : Nat) (c : List Nat) : RegExact (st.setData s c) ↔ RegExact st :=
  ⟨fun h => ⟨h.users, h.exact, h.nodup, h.fresh⟩, fun h => ⟨h.users, h.exact, h.nodup, h.fresh⟩⟩

/-- `register` completes the protocol -/
theorem register_exact (o s : Nat) (h : RegExactExcept st o) (ho : st.store o = some s) :
    RegExact (st.register o s) := by
  have ha := alive_of_store ho
  refine .of_liveRefs (fun s' x => ?_) (fun s' => nodup_liveRefs_register ha (h.nodup s')) (h.toFresh.register s h.lt)
  rw [mem_liveRefs_register ha, h.mem_liveRefs_iff, register_store]
  by_cases e : x = o
  · simp [e, ho, eq_comm]
  · simp [e]

theorem unregister_setStore_except (o s s' : Nat) (h : RegExact st) (ho : st.store o = some s) :
    RegExactExcept ((st.unregister o s).setStore o (some s')) o := by
  have ha : (st.unregister o s).alive o = true := by simpa [alive] using alive_of_store ho
  have hlt : o < (st.unregister o s).next := by
    rw [unregister_next]
    exact Fresh.lt_of_alive h.fresh (alive_of_store ho)
  refine .of_liveRefs (fun s'' hm => ?_) (fun s'' x => ?_) (fun s'' => ?_)
    (fun x hx _ => ((Fresh.unregister h.fresh o s).setStore (.inr hlt)) x hx) hlt
  · -- `o` is in no list: `exact` puts the live `o` into the list of `s` only, and `unregister` filters it from that one
    have hm : o ∈ (st.unregister o s).reg s'' := hm
    rw [mem_reg_unregister] at hm
    split at hm
    · exact hm.2 rfl
    · next e => exact e (Option.some.inj ((h.exact s'' o hm (alive_of_store ho)).symm.trans ho))
  · rw [liveRefs_setStore_some _ _ _ ha, mem_liveRefs_unregister, h.mem_liveRefs_iff]
    by_cases e : x = o
    · simp [e, ho, eq_comm]
    · simp [e]
  · rw [liveRefs_setStore_some _ _ _ ha]
    exact nodup_liveRefs_unregister (h.nodup s'')

theorem swapStorage_exact (o s' : Nat) (h : RegExact st) : RegExact (st.swapStorage o s') := by
  unfold swapStorage
  cases ho : st.store o with
  | none => exact h
  | some s => exact register_exact _ _ _ (unregister_setStore_except st o s s' h ho) (by simp)

theorem checkWritable_exact (s : Nat) (h : RegExact st) : RegExact (st.checkWritable s).1 := by
  refine .of_liveRefs (fun s' o => ?_) (fun s' => ?_) (Fresh.checkWritable h.fresh s)
  · rw [liveRefs_checkWritable, checkWritable_store]
    exact h.mem_liveRefs_iff s' o
  · rw [liveRefs_checkWritable]; exact h.nodup s'

theorem drop_exact (o : Nat) (h : RegExact st) : RegExact (st.setStore o none) := by
  refine .of_liveRefs (fun s x => ?_) (fun s => ?_) (Fresh.setStore h.fresh (.inl rfl))
  · rw [liveRefs_setStore_none, List.mem_filter, h.mem_liveRefs_iff]
    by_cases e : x = o <;> simp [e]
  · rw [liveRefs_setStore_none]; exact (h.nodup s).filter _

theorem create_exact (s : Nat) (c : List Nat) (h : RegExact st) : RegExact (st.step (.create s c)).1 := by
  have hf := h.fresh st.next (Nat.le_refl _)
  have hl : ∀ s', ((({ st with next := st.next + 1 } : AState).setData s c).setStore st.next (some s)).liveRefs s'
      = st.liveRefs s' := liveRefs_setStore_of_not_mem (({ st with next := st.next + 1 } : AState).setData s c) _ _ hf.2
  refine register_exact _ _ _ (.of_liveRefs hf.2 (fun s' x => ?_) (fun s' => ?_)
    (fun x hx _ => Fresh.born h.fresh (some s) x hx) (Nat.lt_succ_self _)) (by simp)
  · rw [hl, h.mem_liveRefs_iff]
    by_cases e : x = st.next
    · simp [e, hf.1]
    · simp [e]
  · rw [hl]; exact h.nodup s'

/-- **the registry stays exact under every operation**, whatever storage identities the interpreter hands out -/
theorem step_exact (op : AOp) (h : RegExact st) : RegExact (st.step op).1 := by
  cases op with
  | create s c => exact create_exact st s c h
  | swap o s' c =>
    simp only [step]
    split
    · exact h
    · exact swapStorage_exact _ o s' ((regExact_setData st s' c).mpr h)
  | write o s' c =>
    exact write_cases st o s' c (P := fun r => RegExact r.1)
      (dead := fun _ => h)
      (unchecked := fun _ => swapStorage_exact _ o s' ((regExact_setData st s' c).mpr h))
      (accepted := fun s _ _ _ => swapStorage_exact _ o s' ((regExact_setData _ s' c).mpr (checkWritable_exact st s h)))
      (refused := fun s _ _ _ => checkWritable_exact st s h)
  | drop o => exact drop_exact st o h

theorem run_exact (ops : List AOp) (st : AState) (h : RegExact st) : RegExact (st.run ops) := by
  induction ops generalizing st with
  | nil => exact h
  | cons op ops ih => exact ih _ (step_exact st op h)

end

end AState
end Serif
