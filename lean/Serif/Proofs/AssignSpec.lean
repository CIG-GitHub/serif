/-
  The model of `Vector.__setitem__` meets the executable specification (`demand` / `accepts`, C08):
  the dtype check is the join of the kinds written, whatever their order (`foldTarget_eq_join`), and on every
  input the model's outcome is one the judge accepts (`C08.model_meets_spec`, proved in Props/C08 from the lemmas here).
-/
import Serif.Proofs.Assign

namespace Serif.Assign

variable (P : Kind → Kind → Bool) (conv : Kind → Nat → Option Nat)

theorem validates_iff_join (a k : Kind) (n : Bool) (ha : a ≠ .object) :
    validates ⟨a, n⟩ (.ty k) = true ↔ a.join k = a := by
  rw [validates_eq_belongs _ _ ha, belongs_ty_iff, Kind.le, Kind.join_comm]

theorem widens_join {a k : Kind} (h : widens a k = true) : a.join k = k ∧ k ≠ .object ∧ a ≠ .object := by
  rcases widens_iff.mp h with ⟨rfl, rfl⟩ | ⟨rfl, rfl⟩ | ⟨rfl, rfl⟩ | ⟨rfl, rfl⟩ <;> decide

/-- after a widening `a → k`, what is still reachable from `a` is what is reachable from `k`.
    This and `reject_final` are finite checks of the two ladders (4 widenings × 13 kinds); `bool` is on the numeric
    ladder without being a source of `widens`, so the order of `Kind.join` alone does not decide them. -/
theorem widens_step (a k z : Kind) (h : widens a k = true) (hz : k.join z = z) :
    (z = a ∨ widens a z = true) ↔ (z = k ∨ widens k z = true) := by
  -- `hz` leaves the kinds above `k`; for those both sides are evaluated
  rcases widens_iff.mp h with ⟨rfl, rfl⟩ | ⟨rfl, rfl⟩ | ⟨rfl, rfl⟩ | ⟨rfl, rfl⟩
  all_goals cases z
  all_goals simp [Kind.join, Kind.isNumeric, Kind.isTemporal] at hz
  all_goals simp [widens]

/-- a value the column neither accepts nor widens to spoils every continuation -/
theorem reject_final (a k z : Kind) (n : Bool) (ha : a ≠ .object)
    (hv : validates ⟨a, n⟩ (.ty k) = false) (hw : widens a k = false) (hz : (a.join k).join z = z) :
    ¬(z = a ∨ widens a z = true) := by
  have hkz : k.join z = z :=
    Kind.le_trans (show Kind.le k (a.join k) by rw [Kind.le, Kind.join_comm, Kind.join_assoc, Kind.join_idem]) hz
  rintro (rfl | hwz)
  · -- `k` would lie below the column kind, and be accepted
    rw [Kind.join_comm, ← validates_iff_join z k n ha, hv] at hkz
    cases hkz
  · -- `k` lies below a kind the column widens to: the column accepts it, or widens to it
    rw [Kind.join_comm, ← validates_iff_join z k n (widens_join hwz).2.1] at hkz
    rcases widens_iff.mp hwz with ⟨rfl, rfl⟩ | ⟨rfl, rfl⟩ | ⟨rfl, rfl⟩ | ⟨rfl, rfl⟩
    all_goals simp [validates] at hkz hv
    all_goals grind [widens]

theorem specKind_cons_none {a : Kind} {c : Cell} {cs : List Cell} (h : c.tag = .none) :
    specKind a (c :: cs) = specKind a cs := by
  simp [specKind, kindsOfCells, h, inferKind]

theorem specKind_cons_ty {a k : Kind} {c : Cell} {cs : List Cell} (h : c.tag = .ty k) :
    specKind a (c :: cs) = specKind (a.join k) cs := by
  simp [specKind, kindsOfCells, h, inferKind]

theorem specKind_absorb (a : Kind) (cs : List Cell) : a.join (specKind a cs) = specKind a cs := by
  unfold specKind
  rw [← foldl_join_left, Kind.join_idem]

/-- the fold in closed form, for `P = widens`; `C08.promotion_order_independent` states it for `genP` -/
theorem foldTarget_eq_join (d : DType) (vals : List Cell)
    (ho : d.kind ≠ .object) (hc : coercible conv vals) :
    foldTarget widens conv d vals =
      if specKind d.kind vals = d.kind ∨ widens d.kind (specKind d.kind vals) = true
      then .ok ⟨specKind d.kind vals, d.nullable || hasNone vals⟩ else .error .type := by
  induction vals generalizing d with
  | nil => simp [foldTarget, specKind, kindsOfCells, hasNone]
  | cons c cs ih =>
    have hc' : coercible conv cs := fun x hx t => hc x (List.mem_cons_of_mem _ hx) t
    unfold foldTarget
    cases ht : c.tag with
    | none =>
      simp only
      rw [ih ⟨d.kind, true⟩ ho hc', specKind_cons_none ht]
      simp [hasNone, ht]
    | ty k =>
      simp only [requiredKind, inferKind, Option.getD_some]
      rw [specKind_cons_ty ht, hasNone_cons_ty ht]
      by_cases hv : validates d (.ty k) = true
      · -- accepted: `k` lies below the column kind, the fold goes on from `d` and the join is what it was
        have hj : d.kind.join k = d.kind := (validates_iff_join d.kind k d.nullable ho).mp hv
        have hcv : (conv d.kind c.uid).isNone = false := hc c List.mem_cons_self _
        simp only [hv, if_true, hcv, Bool.and_false, Bool.false_eq_true, if_false]
        rw [ih d ho hc', hj]
      · simp only [hv, Bool.false_eq_true, if_false]
        by_cases hw : widens d.kind k = true
        · -- widened: the fold goes on from `k`; the rest of the join absorbs `k` (`specKind_absorb`), and what is
          -- reachable from `k` is then what is reachable from the old kind (`widens_step`)
          obtain ⟨hj, hk, _⟩ := widens_join hw
          simp only [hw, if_true]
          rw [ih ⟨k, d.nullable⟩ hk hc', hj]
          have := widens_step d.kind k (specKind k cs) hw (specKind_absorb k cs)
          simp only [this]
        · -- refused: the fold stops, and no later value brings the join back within reach (`reject_final`)
          simp only [hw, Bool.false_eq_true, if_false]
          have hv' : validates ⟨d.kind, d.nullable⟩ (.ty k) = false := by simpa using hv
          have := reject_final d.kind k (specKind (d.kind.join k) cs) d.nullable ho hv'
            (by simpa using hw) (specKind_absorb _ cs)
          simp only [this, if_false]

theorem coercionRisk_cons (c : Cell) (cs : List Cell) :
    coercionRisk conv (c :: cs) = (cellRisk conv c || coercionRisk conv cs) := by
  simp [coercionRisk]

/-- a coercion inside `validate_scalar` that raises is a risk `cellRisk` lists: it only happens towards one of four
    kinds -/
theorem cellRisk_of_validates (c : Cell) (t : DType) (k : Kind) (ht : c.tag = .ty k)
    (hv : validates t (.ty k) = true) (hk : k ≠ t.kind) (hc : (conv t.kind c.uid).isNone = true) :
    cellRisk conv c = true := by
  unfold cellRisk
  simp only [ht, List.any_eq_true, Bool.and_eq_true, bne_iff_ne]
  refine ⟨t.kind, ?_, ⟨hk, hv⟩, hc⟩
  simp only [validates, Bool.or_eq_true, Bool.and_eq_true, decide_eq_true_eq] at hv
  rcases hv with (((h | h) | h) | h) | h
  · exact absurd h hk
  all_goals simp [h.1]

/-- an exception raised by a coercion is the only way the oracle influences the fold -/
theorem foldTarget_conv_cases (d : DType) (vals : List Cell) :
    foldTarget P conv d vals = foldTarget P (fun _ _ => some 0) d vals ∨
    (foldTarget P conv d vals = .error .other ∧ coercionRisk conv vals = true) := by
  induction vals generalizing d with
  | nil => left; rfl
  | cons c cs ih =>
    rw [coercionRisk_cons]
    -- where the head raises nothing, both folds go on from the same dtype
    have next : ∀ d', foldTarget P conv d' cs = foldTarget P (fun _ _ => some 0) d' cs ∨
        (foldTarget P conv d' cs = .error .other ∧ (cellRisk conv c || coercionRisk conv cs) = true) :=
      fun d' => (ih d').imp id fun ⟨h, hr⟩ => ⟨h, by simp [hr]⟩
    unfold foldTarget
    cases ht : c.tag with
    | none => exact next _
    | ty k =>
      simp only [Option.isNone_some, Bool.and_false, Bool.false_eq_true, if_false]
      by_cases hv : validates d (.ty k) = true
      · simp only [hv, if_true]
        by_cases hcf : (k ≠ d.kind && (conv d.kind c.uid).isNone) = true
        · right
          simp only [hcf, if_true, true_and]
          simp only [Bool.and_eq_true, decide_eq_true_eq] at hcf
          rw [cellRisk_of_validates conv c d k ht hv hcf.1 hcf.2]; rfl
        · simp only [hcf, Bool.false_eq_true, if_false]
          exact next d
      · simp only [hv, Bool.false_eq_true, if_false]
        split
        · exact next _
        · left; rfl

theorem relax_lax {dm : Demand} : dm.relax.lax = true := by cases dm <;> rfl

theorem sameObs_refl (s : VState) : sameObs s s = true := by simp [sameObs]

theorem accepts_lax_err {dm : Demand} {s : VState} {e : Err} (hl : dm.lax = true)
    (hf : fpFresh s = true) : accepts dm s (some e, s) = true := by
  cases dm
  all_goals simp [Demand.lax] at hl
  all_goals simp [accepts, sameObs_refl, hf]

theorem accepts_relax {dm : Demand} {s : VState} {out : Option Err × VState}
    (h : accepts dm s out = true) : accepts dm.relax s out = true := by
  obtain ⟨r, s'⟩ := out
  cases dm <;> cases r
  all_goals simp only [accepts, Demand.relax, Bool.and_eq_true, Bool.false_eq_true] at h ⊢
  -- the relaxed demand asks the same, or the same without the test of the exception class
  all_goals first | exact h | exact ⟨h.1.2, h.2⟩

theorem accepts_type_err {dm : Demand} {s : VState} (hf : fpFresh s = true)
    (h : ∀ s1, dm ≠ .succeed s1) : accepts dm s (some .type, s) = true := by
  cases dm <;> simp [accepts, sameObs_refl, hf]
  exact absurd rfl (h _)

theorem accepts_succeed_mat (ups : List (Nat × Cell)) (s : VState) (cvt : List Cell) (dt : Option DType) :
    accepts (.succeed { s with data := listAssign cvt ups, dtype := dt, fp := none }) s
      (none, materialise ups { s with data := cvt, dtype := dt }) = true := by
  simp [accepts, sameObs, materialise, applyUpdates_eq_listAssign, fpFresh]

theorem accepts_succeed_plain (ups : List (Nat × Cell)) (s : VState) :
    accepts (.succeed { s with data := listAssign s.data ups, fp := none }) s
      (none, materialise ups s) = true :=
  accepts_succeed_mat ups s s.data s.dtype

/-- `fr` is a variable equal to the closed form so that the lemma applies to the fold itself through
    `foldTarget_eq_join` -/
theorem inner_meets (ups : List (Nat × Cell)) (s : VState) (d : DType)
    (hf : fpFresh s = true) (fr : Except Err DType)
    (hfr : fr = if specKind d.kind (ups.map (·.2)) = d.kind ∨ widens d.kind (specKind d.kind (ups.map (·.2))) = true
      then .ok ⟨specKind d.kind (ups.map (·.2)), d.nullable || hasNone (ups.map (·.2))⟩ else .error .type) :
    accepts (innerDemand conv ups s d) s (finish ups (checkedOut conv s d fr)) = true := by
  subst hfr
  unfold innerDemand
  simp only
  -- the written kinds and Nones enter only through these two values
  generalize specKind d.kind (ups.map (·.2)) = z
  generalize hasNone (ups.map (·.2)) = b
  by_cases hk : z = d.kind
  · simp only [hk, true_or, if_true, checkedOut, finish]
    have := accepts_succeed_mat ups s s.data (some ⟨d.kind, d.nullable || b⟩)
    simpa [Bool.or_assoc] using this
  · simp only [hk, false_or, if_false]
    by_cases hw : widens d.kind z = true
    · simp only [hw, if_true, checkedOut, hk, if_false, promoteVec_eq, or_true, Bool.true_or]
      cases hc : convAll conv z s.data with
      | none => simp [finish, accepts, sameObs_refl, hf]
      | some cvt =>
        simp only [finish]
        have := accepts_succeed_mat ups s cvt (some ⟨z, d.nullable || b⟩)
        simpa [Bool.or_assoc] using this
    · simp only [hw, Bool.false_eq_true, if_false, checkedOut, finish, Bool.false_or]
      apply accepts_type_err hf
      intro s1
      cases convAll conv z s.data
      all_goals simp only
      all_goals split
      all_goals simp

theorem typed_meets (ups : List (Nat × Cell)) (s : VState)
    (hf : fpFresh s = true) :
    accepts (typedDemand conv ups s) s (finish ups (typePhase genP conv (ups.map (·.2)) s)) = true := by
  rw [typePhase_eq]
  unfold typedDemand
  by_cases hv : ups.map (·.2) = []
  · simp only [hv, List.isEmpty_nil, if_true, finish]
    exact accepts_succeed_plain ups s
  · have hve : (ups.map (·.2)).isEmpty = false := by simpa using hv
    simp only [hv, hve, Bool.false_eq_true, if_false]
    cases hd : s.dtype with
    | none =>
      have := accepts_succeed_plain ups s
      rw [hd] at this
      exact this
    | some d =>
      simp only
      by_cases ho : d.kind = .object
      · simp only [ho, if_true, finish]
        have := accepts_succeed_mat ups s s.data (some ⟨.object, d.nullable || hasNone (ups.map (·.2))⟩)
        obtain ⟨dk, dn⟩ := d
        simp only at ho
        subst ho
        simpa using this
      · simp only [ho, if_false]
        rw [genP_is_widens]
        rcases foldTarget_conv_cases widens conv d (ups.map (·.2)) with h | ⟨h, hr⟩
        · have hm := inner_meets conv ups s d hf _
            (foldTarget_eq_join (fun _ _ => some 0) d (ups.map (·.2)) ho (fun _ _ _ => rfl))
          rw [← h] at hm
          split
          · exact accepts_relax hm
          · exact hm
        · rw [h]
          simp only [hr, if_true, checkedOut, finish]
          exact accepts_lax_err (relax_lax) hf

theorem coreDemand_of_spec {key : Key} {value : Value} {s : VState}
    (hk : key ≠ .maskList []) :
    coreDemand conv key value s =
      match specUpdates key value s.data.length with
      | none => .failAny
      | some ups => typedDemand conv ups s := by
  unfold coreDemand
  cases key with
  | maskList bs =>
    cases bs with
    | nil => exact absurd rfl hk
    | cons b bs => rfl
  | _ => rfl

theorem core_lax_of_build_error {key : Key} {value : Value}
    {s : VState} {e : Err} (h : buildUpdates key value s.data.length = .error e)
    (hf : value.faulty = false ∨ ∃ i, key = .int i) : (coreDemand conv key value s).lax = true := by
  by_cases hk : key = .maskList []
  · subst hk; rfl
  · rw [coreDemand_of_spec conv hk]
    cases hs : specUpdates key value s.data.length with
    | none => rfl
    | some ups =>
      rw [buildUpdates_complete key value _ ups hf hs] at h; cases h

theorem faultAdjust_scalar (key : Key) (c : Cell) (n : Nat) (core : Demand) :
    faultAdjust key (.scalar c) n core = core := by
  cases key <;> rfl

theorem faultAdjust_seq {key : Key} (hk : ∀ i, key ≠ .int i) (self : Cell) (items : List Cell) (len : LenB)
    (ra : Option Nat) (n : Nat) (core : Demand) :
    faultAdjust key (.seq self items len ra) n core =
      match ra with
      | some k =>
        (match keyTargets key n with
         | some ts => if k < ts.length then .failAny else core.relax
         | none => .failAny)
      | none => if len = .ok then core else core.relax := by
  cases key <;> first | exact absurd rfl (hk _) | rfl

theorem faultAdjust_lax (key : Key) (value : Value) (n : Nat) (core : Demand)
    (h : core.lax = true ∨ ((∀ i, key ≠ .int i) ∧ value.faulty = true)) :
    (faultAdjust key value n core).lax = true := by
  by_cases hk : ∃ i, key = .int i
  · obtain ⟨i, rfl⟩ := hk
    exact h.resolve_right fun h => h.1 i rfl
  · cases value with
    | scalar c =>
      rw [faultAdjust_scalar]
      exact h.resolve_right fun h => by cases h.2
    | seq self items len ra =>
      rw [faultAdjust_seq fun i hi => hk ⟨i, hi⟩]
      cases ra with
      | some k =>
        simp only
        split
        · split
          · rfl
          · exact relax_lax
        · rfl
      | none =>
        simp only
        split
        · rename_i hlen
          exact h.resolve_right fun h => by simp [Value.faulty, hlen] at h
        · exact relax_lax

theorem specUpdates_emptyMask {value : Value} {n : Nat} {ups : List (Nat × Cell)}
    (h : specUpdates (.maskList []) value n = some ups) : ups = [] := by
  obtain ⟨ts, vs, hts, _, rfl⟩ := specUpdates_eq_some.mp h
  simp only [keyTargets] at hts
  split at hts <;> cases hts
  rfl

/-- faults in the value only ever weaken a demand that is met -/
theorem faultAdjust_meets {key : Key} {value : Value} {n : Nat} {core : Demand} {s : VState}
    {out : Option Err × VState} {ups : List (Nat × Cell)}
    (hb : buildUpdates key value n = .ok ups)
    (h : accepts core s out = true) : accepts (faultAdjust key value n core) s out = true := by
  by_cases hk : ∃ i, key = .int i
  · obtain ⟨i, rfl⟩ := hk; exact h
  · cases value with
    | scalar c => rwa [faultAdjust_scalar]
    | seq self items len ra =>
      -- the loops succeeded, so the value delivered one item per target
      have hk' : ∀ i, key ≠ .int i := fun i hi => hk ⟨i, hi⟩
      obtain ⟨hspec, hd⟩ := buildUpdates_eq_ok.mp hb
      obtain ⟨ts, hts, ⟨hlen, hra⟩, _⟩ := (specUpdates_and_delivers hk').mp ⟨hspec, hd.resolve_left hk⟩
      rw [faultAdjust_seq hk', hts]
      cases ra with
      | none => simpa [hlen] using h
      | some k =>
        simp only [if_neg (Nat.not_lt.mpr (hra k rfl))]
        exact accepts_relax h

end Serif.Assign
