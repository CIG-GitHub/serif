/-
  Memo coherence of the heap model.  `Coherent` speaks of `objs` only, so the one fact is `coherent_upd` (writing one object whose memo, if set, is right);
  every primitive and `step` are instances of it through the heap's case and induction principles.
-/
import Serif.Proofs.ObjHeap
import Serif.Proofs.Util
import Serif.Model.Fingerprint

namespace Serif.Heap

variable (fpOf : VecVal → Int) (comb : List Int → Int)

theorem coherent_empty : Coherent fpOf Heap.empty := fun _ _ _ h => nomatch h

/-- `h'` is a variable for the reason given at the head of Proofs/ObjHeap.lean; `e` is `rfl` at the call sites. -/
theorem coherent_upd {h h' : Heap} (o : Nat) (ob : Option Obj) (e : h'.objs = upd h.objs o ob)
    (hob : ∀ v m, ob = some (.vec v (some m)) → m = fpOf v) (c : Coherent fpOf h) : Coherent fpOf h' := by
  intro k w m hk
  rw [e] at hk
  by_cases ek : k = o
  · subst ek
    rw [upd_same] at hk
    exact hob w m hk
  · rw [upd_ne _ _ _ _ ek] at hk
    exact c k w m hk

theorem coherent_roots (h : Heap) (r : Nat → Option Nat) (c : Coherent fpOf h) :
    Coherent fpOf { h with roots := r } := c

theorem coherent_allocVec (h : Heap) (v : VecVal) (c : Coherent fpOf h) : Coherent fpOf (h.allocVec v).1 :=
  coherent_upd fpOf h.next _ rfl (fun _ _ e => nomatch e) c

theorem coherent_alloc (h : Heap) (a : AbsVal) (c : Coherent fpOf h) : Coherent fpOf (h.alloc a).1 := by
  cases a with
  | vec v => exact coherent_allocVec fpOf h v c
  | tab cols =>
    exact coherent_upd fpOf _ _ rfl (fun _ _ e => nomatch e) (allocVecs_induction (coherent_allocVec fpOf) cols h c)

theorem coherent_setVec (h : Heap) (o : Nat) (v : VecVal) (c : Coherent fpOf h) : Coherent fpOf (h.setVec o v) :=
  setVec_cases h o v c fun _ _ _ => coherent_upd fpOf o _ rfl (fun _ _ e => nomatch e) c

theorem coherent_memo (h : Heap) (o : Nat) (c : Coherent fpOf h) : Coherent fpOf (memo fpOf h o) :=
  memo_cases fpOf h o c fun _ _ _ => coherent_upd fpOf o _ rfl (fun _ _ e => by cases e; rfl) c

theorem coherent_step (h : Heap) (op : HOp) (c : Coherent fpOf h) : Coherent fpOf (step fpOf h op) :=
  step_cases fpOf h (P := fun _ h' => Coherent fpOf h') op
    (same := fun _ => c)
    (derive := fun _ val => coherent_alloc fpOf h val c)
    (getCol := fun _ _ _ _ _ _ _ _ _ => c)
    (setAttr := fun _ _ _ ot _ _ _ _ v _ _ _ _ _ _ =>
      coherent_upd fpOf ot _ rfl (fun _ _ e => nomatch e) (coherent_allocVec fpOf h v c))
    (mutate := fun _ v o _ => coherent_setVec fpOf h o v c)
    (tabMutate := fun _ vs _ cols _ _ => setVecs_induction cols vs h c fun g o v _ => coherent_setVec fpOf g o v)
    (drop := fun _ => c)
    (fingerprint := fun _ cols => memo_foldl_induction fpOf (coherent_memo fpOf) cols h c)

theorem coherent_run (ops : List HOp) (h : Heap) (c : Coherent fpOf h) : Coherent fpOf (run fpOf h ops) :=
  run_induction fpOf (coherent_step fpOf) ops h c

/-- under coherence `fingerprint()` is a function of what the object shows -/
theorem fpRead_eq (h : Heap) (c : Coherent fpOf h) (o : Nat) :
    fpRead fpOf comb h o = (h.abs o).map (fpAbs fpOf comb) := by
  have elem : ∀ x, (match h.obj x with
      | some (.vec _ (some m)) => some m
      | some (.vec v none) => some (fpOf v)
      | _ => none) = (h.vecOf x).map fpOf := by
    intro x
    unfold vecOf
    cases hx : h.obj x with
    | none => rfl
    | some ob =>
      cases ob with
      | tab _ => rfl
      | vec v m =>
        cases m with
        | none => rfl
        | some m =>
          simp only [Option.map_some]
          rw [c x v m hx]
  unfold fpRead abs
  cases ho : h.obj o with
  | none => rfl
  | some ob =>
    cases ob with
    | vec v m =>
      cases m with
      | none => rfl
      | some m =>
        simp only [Option.map_some, fpAbs]
        rw [c o v m ho]
    | tab cols =>
      simp only [Option.map_some, fpAbs]
      congr 2
      rw [List.map_filterMap]
      exact List.filterMap_congr (fun x _ => elem x)

end Serif.Heap
