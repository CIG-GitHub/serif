/-
  Lemmas about pure tables (used by Props/C02).  `row` and the per-column selection of `rowSel` are `filterMap`s that, in a
  rectangular table and within range, drop nothing (Util: `getElem?_filterMap_of_isSome`); `appendRows` is a `zipWith`.
-/
import Serif.Model.Tab
import Serif.Proofs.Util

namespace Serif.Tab
variable {α : Type}

theorem rectB_iff (cols : List (List α)) (n : Nat) : rectB cols n = true ↔ Rect cols n := by
  simp [rectB, Rect]

theorem rect_cons {c : List α} {cs : List (List α)} {n : Nat} : Rect (c :: cs) n ↔ c.length = n ∧ Rect cs n :=
  List.forall_mem_cons

theorem rect_append {a b : List (List α)} {n : Nat} : Rect (a ++ b) n ↔ Rect a n ∧ Rect b n :=
  List.forall_mem_append

/-- one row of cells, as one-cell columns -/
theorem rect_singletons (vals : List α) : Rect (vals.map (fun v => [v])) 1 := by
  intro c hc
  obtain ⟨v, _, rfl⟩ := List.mem_map.mp hc
  rfl

private theorem cell_isSome {cols : List (List α)} {n i : Nat} (h : Rect cols n) (hi : i < n) :
    ∀ c ∈ cols, (c[i]?).isSome := by
  intro c hc
  rw [isSome_getElem?, h c hc]
  exact hi

theorem row_length (cols : List (List α)) (n i : Nat) (h : Rect cols n) (hi : i < n) :
    (row cols i).length = cols.length :=
  List.length_filterMap_of_isSome (cell_isSome h hi)

theorem row_getElem? (cols : List (List α)) (n i : Nat) (h : Rect cols n) (hi : i < n) (j : Nat) :
    (row cols i)[j]? = cols[j]?.bind (·[i]?) :=
  List.getElem?_filterMap_of_isSome (cell_isSome h hi) j

theorem rows_length (cols : List (List α)) (n : Nat) : (rows cols n).length = n := by
  simp [rows]

theorem rows_getElem? (cols : List (List α)) (n i : Nat) (hi : i < n) :
    (rows cols n)[i]? = some (row cols i) := by
  simp [rows, hi]

theorem rows_getElem?_none (cols : List (List α)) (n i : Nat) (hi : n ≤ i) : (rows cols n)[i]? = none := by
  simp [rows, hi]

theorem rows_rect (cols : List (List α)) (n : Nat) (h : Rect cols n) : Rect (rows cols n) cols.length := by
  intro r hr
  obtain ⟨i, hi, rfl⟩ := List.mem_map.mp hr
  exact row_length cols n i h (List.mem_range.mp hi)

theorem appendRows_eq_zipWith (a b : List (List α)) : appendRows a b = List.zipWith (· ++ ·) a b := by
  induction a generalizing b with
  | nil => cases b <;> rfl
  | cons c cs ih => cases b with
    | nil => rfl
    | cons d ds => rw [appendRows, ih, List.zipWith_cons_cons]

theorem appendRows_length (a b : List (List α)) (h : a.length = b.length) : (appendRows a b).length = a.length := by
  rw [appendRows_eq_zipWith, List.length_zipWith, h, Nat.min_self]

theorem appendRows_getElem? (a b : List (List α)) (h : a.length = b.length) (j : Nat) (hj : j < a.length) :
    (appendRows a b)[j]? = some (a[j] ++ b[j]'(h ▸ hj)) := by
  rw [appendRows_eq_zipWith, List.getElem?_zipWith, List.getElem?_eq_getElem hj, List.getElem?_eq_getElem (h ▸ hj)]

theorem appendRows_rect (a b : List (List α)) (n m : Nat) (ha : Rect a n) (hb : Rect b m) :
    Rect (appendRows a b) (n + m) := by
  induction a generalizing b with
  | nil => cases b <;> exact fun _ h => nomatch h
  | cons c cs ih => cases b with
    | nil => exact fun _ h => nomatch h
    | cons d ds =>
      rw [rect_cons] at ha hb
      rw [appendRows, rect_cons, List.length_append, ha.1, hb.1]
      exact ⟨rfl, ih ds ha.2 hb.2⟩

theorem rowSel_length (idxs : List Nat) (cols : List (List α)) : (rowSel idxs cols).length = cols.length := by
  simp [rowSel]

private theorem sel_isSome {idxs : List Nat} {c : List α} {n : Nat} (hc : c.length = n) (hi : ∀ i ∈ idxs, i < n) :
    ∀ i ∈ idxs, (c[i]?).isSome := by
  intro i him
  rw [isSome_getElem?, hc]
  exact hi i him

theorem rowSel_rect (idxs : List Nat) (cols : List (List α)) (n : Nat) (h : Rect cols n) (hi : ∀ i ∈ idxs, i < n) :
    Rect (rowSel idxs cols) idxs.length := by
  intro x hx
  obtain ⟨c, hc, rfl⟩ := List.mem_map.mp hx
  exact List.length_filterMap_of_isSome (sel_isSome (h c hc) hi)

theorem rowSel_row (idxs : List Nat) (cols : List (List α)) (n : Nat) (h : Rect cols n) (hi : ∀ i ∈ idxs, i < n)
    (k : Nat) (hk : k < idxs.length) : row (rowSel idxs cols) k = row cols idxs[k] := by
  rw [row, rowSel, List.filterMap_map]
  refine List.filterMap_congr fun c hc => ?_
  rw [Function.comp_apply, List.getElem?_filterMap_of_isSome (sel_isSome (h c hc) hi), List.getElem?_eq_getElem hk]
  rfl

theorem transpose_transpose_cols (cols : List (List α)) (n : Nat) (h : Rect cols n) :
    transpose (transpose cols n) cols.length = cols := by
  unfold transpose
  apply List.ext_getElem?
  intro j
  by_cases hj : j < cols.length
  · rw [rows_getElem? _ _ _ hj, List.getElem?_eq_getElem hj]
    congr 1
    -- row j of the list of rows is column j, cell by cell
    have : row (rows cols n) j = (List.range n).filterMap (fun i => (cols[j])[i]?) := by
      rw [row, rows, List.filterMap_map]
      refine List.filterMap_congr fun i hi => ?_
      rw [Function.comp_apply, row_getElem? cols n i h (List.mem_range.mp hi), List.getElem?_eq_getElem hj]
      rfl
    rw [this, ← h _ (List.getElem_mem hj), List.range_eq_range', List.filterMap_getElem?_range' _ 0 _]
    simp
  · rw [rows_getElem?_none _ _ _ (Nat.le_of_not_lt hj), List.getElem?_eq_none (Nat.le_of_not_lt hj)]

end Serif.Tab
