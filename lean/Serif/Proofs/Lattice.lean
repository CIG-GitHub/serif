/- The order of `Kind.join`: a bundle of chains under `object`; and the wire codes of kinds. -/
import Serif.Model.DType

namespace Serif

/-- with `height` (the place on the chain, from its bottom) this is the whole shape of the order: `join_eq` -/
def Kind.chain : Kind → Nat
  | bool | int | float | complex => 0
  | date | datetime => 1
  | str => 2 | bytes => 3 | list => 4 | dict => 5 | tuple => 6 | object => 7
  | other n => n + 8  -- not `8 + n`: the `rfl`s of `join_eq` need the successor form to reduce against a literal

def Kind.height : Kind → Nat
  | int | datetime => 1
  | float => 2
  | complex => 3
  | _ => 0

theorem Kind.join_eq (a b : Kind) :
    a.join b = if a.chain = b.chain then (if a.height ≤ b.height then b else a) else object := by
  cases a <;> cases b
  case other.other n m => by_cases h : n = m <;> simp [join, chain, height, isNumeric, isTemporal, h]
  all_goals rfl

theorem Kind.object_join (c : Kind) : object.join c = object := by cases c <;> rfl

theorem Kind.join_object (c : Kind) : c.join object = object := by cases c <;> rfl

theorem Kind.join_of_chain_ne {a b : Kind} (h : a.chain ≠ b.chain) : a.join b = object := by
  rw [join_eq, if_neg h]

theorem Kind.chain_join {a b : Kind} (h : a.chain = b.chain) : (a.join b).chain = b.chain := by
  rw [join_eq, if_pos h]
  split <;> simp [h]

theorem Kind.join_idem (a : Kind) : a.join a = a := by
  simp [Kind.join]

theorem Kind.join_comm (a b : Kind) : a.join b = b.join a := by
  by_cases h : a = b
  · rw [h]
  · simp only [join, if_neg h, if_neg (Ne.symm h), Bool.and_comm b.isNumeric, Bool.and_comm b.isTemporal,
      Bool.or_comm (decide (b = _))]

theorem Kind.join_assoc (a b c : Kind) : (a.join b).join c = a.join (b.join c) := by
  by_cases hab : a.chain = b.chain <;> by_cases hbc : b.chain = c.chain
  · -- one chain: both sides are the highest of the three
    simp only [join_eq, hab, hbc]
    grind
  · rw [join_of_chain_ne hbc, join_object, join_of_chain_ne (by rwa [chain_join hab])]
  · rw [join_of_chain_ne hab, object_join, join_of_chain_ne (by rwa [chain_join hbc, ← hbc])]
  · rw [join_of_chain_ne hab, join_of_chain_ne hbc, object_join, join_object]

theorem Kind.le_refl (a : Kind) : Kind.le a a := Kind.join_idem a

theorem Kind.le_object (a : Kind) : Kind.le a .object := Kind.join_object a

theorem Kind.le_join_left (a b : Kind) : Kind.le a (a.join b) := by
  rw [Kind.le, ← join_assoc, join_idem]

theorem Kind.le_join_right (a b : Kind) : Kind.le b (a.join b) := by
  rw [Kind.le, join_comm, join_assoc, join_idem]

theorem Kind.le_trans {a b c : Kind} (hab : Kind.le a b) (hbc : Kind.le b c) : Kind.le a c := by
  unfold Kind.le at *
  rw [← hbc, ← join_assoc, hab]

theorem Kind.le_antisymm {a b : Kind} (hab : Kind.le a b) (hba : Kind.le b a) : a = b := by
  unfold Kind.le at *
  rw [← hba, Kind.join_comm, hab]

theorem Kind.isTemporal_iff (k : Kind) : k.isTemporal = true ↔ k = date ∨ k = datetime := by
  cases k <;> simp [isTemporal]

theorem Kind.ofCode_add (n : Nat) : Kind.ofCode (n + 13) = .other n := rfl

theorem Kind.ofCode_code (k : Kind) : Kind.ofCode k.code = k := by
  cases k with
  | other n => exact (Nat.add_comm 13 n ▸ Kind.ofCode_add n : Kind.ofCode (13 + n) = .other n)
  | _ => rfl

theorem Kind.code_ofCode {c : Nat} (h : 0 < c) : (Kind.ofCode c).code = c := by
  match c, h with
  | 1, _ | 2, _ | 3, _ | 4, _ | 5, _ | 6, _ | 7, _ | 8, _ | 9, _ | 10, _ | 11, _ | 12, _ => rfl
  | n + 13, _ => rw [Kind.ofCode_add]; exact Nat.add_comm 13 n

theorem Kind.code_inj {a b : Kind} (h : a.code = b.code) : a = b := by
  rw [← Kind.ofCode_code a, h, Kind.ofCode_code]

theorem Tag.ofCode_pos {c : Nat} (h : c ≠ 0) : Tag.ofCode c = .ty (Kind.ofCode c) := by
  cases c with
  | zero => exact absurd rfl h
  | succ c => rfl

end Serif
