/- The lemma layer of C03 and C18: an operation of Serif/Model/Expr.lean is unfolded in one lemma `*_ok` that says what a
   successful result is — its dtype's truthfulness and its name(s), or the shape both are read off.  Without one: `unary`
   (it is `finishKeep`), `isna`, `toObject`, `copy` (constructor calls; `*_truthful` only), and `tarithO` / `tarithV`,
   which share `renamedTable_ok`.  `step_ok` puts the operations together. -/
import Serif.Model.Expr
import Serif.Proofs.DType
import Serif.Proofs.Uniquify

namespace Serif.X

theorem belongs_none (d : DType) : belongs d .none = d.nullable := rfl

theorem truthful_some_iff (ts : List Tag) (d : DType) :
    truthful ts (some d) = true ↔ ∀ t ∈ ts, belongs d t = true := by
  simp [truthful, List.all_eq_true]

theorem infer_truthful (ts : List Tag) : truthful ts (some (infer ts)) = true := by
  rw [truthful_some_iff, infer_eq_spec]
  intro t ht
  unfold inferSpec
  cases hk : kindsOf ts with
  | nil => exact belongs_object_nullable t
  | cons k ks =>
    cases t with
    | none => simp [belongs, ht]
    | ty v =>
      have hv : v ∈ k :: ks := by
        rw [← hk]
        simp only [kindsOf, List.mem_filterMap]
        exact ⟨_, ht, rfl⟩
      exact (belongs_ty_iff _ _ _).mpr (le_foldl_join ks v k hv)

theorem truthful_nil (dt : Option DType) : truthful [] dt = true := by
  cases dt <;> simp [truthful]

theorem mkVec_none_truthful (ts : List Tag) (n : Option String) : (mkVec ts none n).truthful = true := by
  unfold mkVec AVec.truthful
  cases ts with
  | nil => rfl
  | cons t ts => exact infer_truthful _

theorem mkVec_some_truthful (ts : List Tag) (d : DType) (n : Option String) :
    (mkVec ts (some d) n).truthful = true ↔ ∀ t ∈ ts, belongs d t = true := truthful_some_iff ts d

/-- dtype kept unless there are elements to infer from: the shape of `__radd__`, unary, `<<` -/
theorem mkVec_keep_truthful (ts : List Tag) (dt : Option DType) (n : Option String) :
    (mkVec ts (if ts.isEmpty then dt else some (infer ts)) n).truthful = true := by
  cases ts with
  | nil => cases dt <;> rfl
  | cons t ts => exact infer_truthful _

theorem mkVec_const_truthful {α : Type} (xs : List α) (k : Kind) (b : Bool) (n : Option String) :
    (mkVec (xs.map fun _ => Tag.ty k) (some ⟨k, b⟩) n).truthful = true := by
  rw [mkVec_some_truthful]
  intro t ht
  obtain ⟨_, _, rfl⟩ := List.mem_map.mp ht
  exact belongs_self _ _

theorem AVec.truthful_iff {a : AVec} {d : DType} (hd : a.dtype = some d) :
    a.truthful = true ↔ ∀ t ∈ a.tags, belongs d t = true := by
  rw [AVec.truthful, hd, truthful_some_iff]

theorem copyWith_truthful {v : AVec} {ts : List Tag} (hv : v.truthful = true) (h : ∀ t ∈ ts, t ∈ v.tags) :
    (v.copyWith ts).truthful = true := by
  cases hd : v.dtype with
  | none =>
    simp only [AVec.copyWith, hd]
    exact mkVec_none_truthful _ _
  | some d =>
    simp only [AVec.copyWith, hd, mkVec_some_truthful]
    exact fun t ht => (AVec.truthful_iff hd).mp hv t (h t ht)

theorem copy_truthful {v : AVec} (hv : v.truthful = true) : v.copy.truthful = true :=
  copyWith_truthful hv (fun _ h => h)

theorem truthful_with_name (v : AVec) (n : Option String) : ({ v with name := n } : AVec).truthful = v.truthful := rfl

theorem gather_mem {α : Type} {l : List α} {idx : List Nat} {r : List α} (h : gather l idx = some r) :
    ∀ x ∈ r, x ∈ l := by
  induction idx generalizing r with
  | nil => cases h; simp
  | cons i is ih =>
    simp only [gather] at h
    split at h
    · rename_i x xs hx hxs
      cases h
      exact List.forall_mem_cons.mpr ⟨List.mem_of_getElem? hx, ih hxs⟩
    · cases h

theorem selMask_mem {α : Type} (m : List Bool) (l : List α) : ∀ x ∈ selMask m l, x ∈ l := by
  induction m generalizing l with
  | nil => simp [selMask]
  | cons b bs ih =>
    cases l with
    | nil => simp [selMask]
    | cons y ys =>
      simp only [selMask]
      split
      · exact List.forall_mem_cons.mpr ⟨List.mem_cons_self, fun x hx => List.mem_cons_of_mem _ (ih ys x hx)⟩
      · exact fun x hx => List.mem_cons_of_mem _ (ih ys x hx)

theorem collect_ok_mem {rs : List SRes} {ts : List Tag} (h : collect rs = .ok ts) :
    ∀ t ∈ ts, SRes.ok t ∈ rs := by
  induction rs generalizing ts with
  | nil => cases h; simp
  | cons r rs ih =>
    cases r with
    | ok t0 =>
      simp only [collect] at h
      split at h
      · rename_i ts' hts
        cases h
        exact List.forall_mem_cons.mpr ⟨List.mem_cons_self, fun t ht => List.mem_cons_of_mem _ (ih hts t ht)⟩
      · cases h
    | typeErr => cases h
    | err => cases h

theorem mapRes_ok_mem {f : Nat → Tag → SRes} {i : Nat} {xs : List Tag} {t : Tag}
    (h : SRes.ok t ∈ mapRes f i xs) :
    (t = .none ∧ Tag.none ∈ xs) ∨ ∃ x ∈ xs, x ≠ .none ∧ ∃ j, f j x = .ok t := by
  induction xs generalizing i with
  | nil => simp [mapRes] at h
  | cons x xs ih =>
    simp only [mapRes, List.mem_cons] at h
    rcases h with h | h
    · by_cases hx : x = .none
      · simp only [hx, if_true] at h
        cases h
        exact Or.inl ⟨rfl, by simp [hx]⟩
      · simp only [hx, if_false] at h
        exact Or.inr ⟨x, List.mem_cons_self, hx, i, h.symm⟩
    · rcases ih h with ⟨h1, h2⟩ | ⟨y, hy, hne, j, hj⟩
      · exact Or.inl ⟨h1, List.mem_cons_of_mem _ h2⟩
      · exact Or.inr ⟨y, List.mem_cons_of_mem _ hy, hne, j, hj⟩

theorem finishArith_ok {sf : Bool} {n : Nat} {rs : List SRes} {r : AVec}
    (h : finishArith sf n rs = .ok r) : r.truthful = true ∧ r.name = none := by
  unfold finishArith at h
  split at h
  · cases h; exact ⟨infer_truthful _, rfl⟩
  · split at h
    · cases h
    · cases h
      refine ⟨(mkVec_some_truthful _ _ _).mpr fun t ht => ?_, rfl⟩
      rw [List.eq_of_mem_replicate ht]
      exact belongs_object _ _
  · cases h

theorem finishKeep_ok {a : AVec} {nm : Option String} {rs : List SRes} {r : AVec}
    (h : finishKeep a nm rs = .ok r) : r.truthful = true ∧ r.name = nm := by
  unfold finishKeep at h
  split at h
  · cases h; exact ⟨mkVec_keep_truthful _ _ _, rfl⟩
  · cases h
  · cases h

theorem finishPlain_ok {rs : List SRes} {r : AVec} (h : finishPlain rs = .ok r) :
    r.truthful = true ∧ r.name = none := by
  unfold finishPlain at h
  split at h
  · cases h; exact ⟨mkVec_none_truthful _ _, rfl⟩
  · cases h
  · cases h

theorem finishCmp_ok {rs : List SRes} {r : AVec} (h : finishCmp rs = .ok r) :
    r.truthful = true ∧ r.name = none := by
  unfold finishCmp at h
  split at h
  · cases h; exact ⟨mkVec_const_truthful _ _ _ _, rfl⟩
  · cases h

theorem arithVV_ok {ρ : Oracle} {s c : Nat} {op : AOp} {a b r : AVec}
    (h : arithVV ρ s c op a b = .ok r) : r.truthful = true ∧ r.name = none := by
  unfold arithVV at h
  split at h
  · cases h
  · split at h
    · exact finishPlain_ok h
    · exact finishArith_ok h

theorem arithVO_ok {ρ : Oracle} {s c : Nat} {op : AOp} {a r : AVec} {o : Other}
    (h : arithVO ρ s c op a o = .ok r) : r.truthful = true ∧ r.name = none := by
  unfold arithVO at h
  split at h
  · exact finishKeep_ok h
  · split at h
    · cases h
    · exact finishKeep_ok h
  · split at h
    · exact finishPlain_ok h
    · exact finishArith_ok h
  · split at h
    · cases h
    · exact finishArith_ok h

theorem cmpVV_ok {ρ : Oracle} {s : Nat} {a b r : AVec} (h : cmpVV ρ s a b = .ok r) :
    r.truthful = true ∧ r.name = none := by
  unfold cmpVV at h
  split at h
  · cases h
  · exact finishCmp_ok h

theorem cmpVO_ok {ρ : Oracle} {s : Nat} {a r : AVec} {o : Other} (h : cmpVO ρ s a o = .ok r) :
    r.truthful = true ∧ r.name = none := by
  unfold cmpVO at h
  split at h
  · exact finishCmp_ok h
  · split at h
    · cases h
    · exact finishCmp_ok h

theorem unary_truthful (ρ : Oracle) (s : Nat) (a r : AVec) (h : unary ρ s a = .ok r) :
    r.truthful = true := (finishKeep_ok h).1

theorem lshiftVV_ok {a b r : AVec} (h : lshiftVV a b = .ok r) : r.truthful = true ∧ r.name = none := by
  unfold lshiftVV at h
  split at h
  · cases h
  · split at h
    · cases h
    · cases h; exact ⟨mkVec_keep_truthful _ _ _, rfl⟩

theorem lshiftVO_ok {a r : AVec} {o : Other} (h : lshiftVO a o = .ok r) : r.truthful = true ∧ r.name = none := by
  unfold lshiftVO at h
  split at h
  · cases h
  · split at h
    · cases h; exact ⟨mkVec_keep_truthful _ _ _, rfl⟩
    · cases h; exact ⟨infer_truthful _, rfl⟩

theorem castOne_ok {ρ : Oracle} (hρ : CastSound ρ) {s i : Nat} {k : Kind} {x t : Tag}
    (h : castOne ρ s k i x = .ok t) : t = .ty k := by
  unfold castOne at h
  split at h
  · rename_i hc
    cases h
    rw [hc.1]
  · split at h
    · rename_i hc
      cases h
      rw [hc.1, hc.2]
    · split at h
      · rename_i hc
        cases h
        rw [hc.1, hc.2]
      · exact hρ _ _ _ _ _ h

theorem cast_ok {ρ : Oracle} {s : Nat} {k : Kind} {a r : AVec} (h : cast ρ s k a = .ok r) :
    r.name = a.name ∧ (CastSound ρ → r.truthful = true) := by
  unfold cast at h
  split at h
  · rename_i ts hts
    cases h
    refine ⟨rfl, fun hρ => ?_⟩
    rw [mkVec_some_truthful]
    intro t ht
    rcases mapRes_ok_mem (collect_ok_mem hts t ht) with ⟨rfl, hn⟩ | ⟨x, _, _, j, hj⟩
    · simp [belongs, hn]
    · rw [castOne_ok hρ hj]; exact belongs_self _ _
  · cases h

theorem cast_truthful (ρ : Oracle) (hρ : CastSound ρ) (s : Nat) (k : Kind) (a r : AVec)
    (h : cast ρ s k a = .ok r) : r.truthful = true := (cast_ok h).2 hρ

theorem mem_fillWith {t : Tag} {ts : List Tag} {x : Tag} (h : x ∈ fillWith t ts) :
    (x ∈ ts ∧ x ≠ .none) ∨ (x = t ∧ Tag.none ∈ ts) := by
  obtain ⟨y, hy, rfl⟩ := List.mem_map.mp h
  by_cases hn : y = .none
  · subst hn
    right
    simp [hy]
  · left; simp [hn, hy]

theorem mem_promoteTags {c t : Kind} {ts : List Tag} {x : Tag} (h : x ∈ promoteTags c t ts) :
    (x ∈ ts ∧ (c = t ∨ x = .none)) ∨ x = .ty t := by
  unfold promoteTags at h
  split at h
  · rename_i hct
    exact Or.inl ⟨h, Or.inl hct⟩
  · obtain ⟨y, hy, rfl⟩ := List.mem_map.mp h
    by_cases hn : y = .none
    · subst hn; exact Or.inl ⟨hy, Or.inr rfl⟩
    · exact Or.inr (if_neg hn)

theorem fillna_ok {t : Tag} {a r : AVec} (h : fillna t a = .ok r) :
    r.name = a.name ∧ (a.truthful = true → r.truthful = true) := by
  unfold fillna at h
  split at h
  · cases h; exact ⟨rfl, fun _ => mkVec_none_truthful _ _⟩
  · rename_i d hd
    rw [AVec.truthful_iff hd]
    split at h
    · -- the fill value is refused by `validate_scalar`: the column is converted to the value's own kind
      rename_i hc
      obtain ⟨_, htn, hval⟩ := hc
      dsimp only at h
      split at h
      · cases h
      · cases h
        cases t with
        | none => exact absurd rfl htn
        | ty kt =>
          have hne : d.kind ≠ kt := by
            intro e; simp [validates, e] at hval
          refine ⟨rfl, fun _ => ?_⟩
          rw [infer_singleton, mkVec_some_truthful]
          intro x hx
          rcases mem_fillWith hx with ⟨hx1, hx2⟩ | ⟨rfl, _⟩
          · rcases mem_promoteTags hx1 with ⟨_, e | e⟩ | rfl
            · exact absurd e hne
            · exact absurd e hx2
            · exact belongs_self _ _
          · exact belongs_self _ _
    · -- the fill value is accepted (`hc` negated): an object column, or `validate_scalar` returns; the kind stays
      rename_i hc
      cases h
      refine ⟨rfl, fun ha => ?_⟩
      rw [mkVec_some_truthful]
      intro x hx
      cases x with
      | none => simp [belongs, hx]
      | ty v =>
        rw [belongs_ty_nullable _ _ _ d.nullable]
        rcases mem_fillWith hx with ⟨hx1, _⟩ | ⟨rfl, _⟩
        · exact ha _ hx1
        · by_cases hobj : d.kind = .object
          · exact (belongs_ty_iff _ _ _).mpr (hobj ▸ Kind.join_object v)
          · rw [← validates_eq_belongs d _ hobj]
            cases hvv : validates d (.ty v) with
            | true => rfl
            | false => exact absurd ⟨hobj, by simp, hvv⟩ hc

theorem fillna_truthful (t : Tag) (a r : AVec) (ha : a.truthful = true) (h : fillna t a = .ok r) :
    r.truthful = true := (fillna_ok h).2 ha

theorem dropna_ok {a r : AVec} (h : dropna a = .ok r) : r.name = none ∧ (a.truthful = true → r.truthful = true) := by
  unfold dropna at h
  split at h
  · cases h; exact ⟨rfl, fun _ => mkVec_none_truthful _ _⟩
  · rename_i d hd
    cases h
    refine ⟨rfl, fun ha => ?_⟩
    rw [AVec.truthful_iff hd] at ha
    rw [mkVec_some_truthful]
    intro x hx
    simp only [List.mem_filter, decide_eq_true_eq] at hx
    cases x with
    | none => exact absurd rfl hx.2
    | ty v => rw [belongs_ty_nullable _ _ _ d.nullable]; exact ha _ hx.1

theorem dropna_truthful (a r : AVec) (ha : a.truthful = true) (h : dropna a = .ok r) :
    r.truthful = true := (dropna_ok h).2 ha

theorem isna_truthful (a : AVec) : (isna a).truthful = true := mkVec_const_truthful _ _ _ _

theorem toObject_truthful (a : AVec) : (toObject a).truthful = true := by
  unfold toObject
  rw [mkVec_some_truthful]
  intro t ht
  cases t with
  | none => simp [belongs, ht]
  | ty v => exact belongs_object _ _

/-- `r` is `a.copy(new_values)` on a selection of `a`'s elements: what slices, index lists, masks and sorts return -/
def IsSelection (a r : AVec) : Prop := ∃ ts, (∀ t ∈ ts, t ∈ a.tags) ∧ r = a.copyWith ts

theorem IsSelection.truthful {a r : AVec} (h : IsSelection a r) (ha : a.truthful = true) : r.truthful = true := by
  obtain ⟨ts, hm, rfl⟩ := h
  exact copyWith_truthful ha hm

theorem IsSelection.name {a r : AVec} (h : IsSelection a r) : r.name = a.name := by
  obtain ⟨ts, _, rfl⟩ := h
  rfl

theorem sortV_ok {p : List Nat} {a r : AVec} (h : sortV p a = .ok r) : IsSelection a r := by
  unfold sortV at h
  split at h
  · rename_i ts hts
    cases h
    exact ⟨ts, gather_mem hts, rfl⟩
  · cases h

theorem getIdx_ok {idx : List Nat} {a r : AVec} (h : getIdx idx a = .ok r) : IsSelection a r := by
  unfold getIdx at h
  split at h
  · rename_i ts hts
    cases h
    exact ⟨ts, gather_mem hts, rfl⟩
  · cases h

theorem getMask_ok {m : List Bool} {a r : AVec} (h : getMask m a = .ok r) : IsSelection a r := by
  unfold getMask at h
  split at h
  · cases h
  · cases h; exact ⟨_, selMask_mem _ _, rfl⟩

theorem getV_ok {m : List Bool} {idx : List Nat} {a k r : AVec} (h : getV m idx a k = .ok r) :
    IsSelection a r := by
  unfold getV at h
  split at h
  · cases h
  · split at h
    · exact getMask_ok h
    · split at h
      · exact getIdx_ok h
      · cases h

theorem promotable_spec {k k' : Kind} (hp : promotable k k' = true) : Kind.le k k' ∧ k' ≠ .object := by
  simp only [promotable, Bool.or_eq_true, Bool.and_eq_true, decide_eq_true_eq] at hp
  rcases hp with ((⟨rfl, rfl⟩ | ⟨rfl, rfl⟩) | ⟨rfl, rfl⟩) | ⟨rfl, rfl⟩ <;> exact ⟨rfl, by simp⟩

theorem setTarget_spec (vs : List Tag) (d target : DType) (hobj : d.kind ≠ .object)
    (h : setTarget d vs = .ok target) :
    Kind.le d.kind target.kind ∧ (d.nullable = true → target.nullable = true) ∧
      ∀ v ∈ vs, belongs target v = true := by
  induction vs generalizing d with
  | nil => cases h; exact ⟨Kind.le_refl _, id, by simp⟩
  | cons v vs ih =>
    cases v with
    | none =>
      obtain ⟨hk, hn, hv⟩ := ih ⟨d.kind, true⟩ hobj h
      exact ⟨hk, fun _ => hn rfl, List.forall_mem_cons.mpr ⟨hn rfl, hv⟩⟩
    | ty k =>
      simp only [setTarget] at h
      split at h
      · rename_i hval
        obtain ⟨hk, hn, hv⟩ := ih _ hobj h
        rw [validates_eq_belongs d _ hobj] at hval
        exact ⟨hk, hn, List.forall_mem_cons.mpr ⟨belongs_of_le hk hn hval, hv⟩⟩
      · split at h
        · rename_i hp
          obtain ⟨hk, hn, hv⟩ := ih ⟨k, d.nullable⟩ (promotable_spec hp).2 h
          exact ⟨Kind.le_trans (promotable_spec hp).1 hk, hn,
            List.forall_mem_cons.mpr ⟨belongs_of_le hk hn (belongs_self k d.nullable), hv⟩⟩
        · cases h

theorem mem_writeAll {ts : List Tag} {ups : List (Nat × Tag)} {x : Tag} (h : x ∈ writeAll ts ups) :
    x ∈ ts ∨ x ∈ ups.map (·.2) := by
  induction ups generalizing ts with
  | nil => exact Or.inl h
  | cons u us ih =>
    rcases ih (ts := ts.set u.1 u.2) h with h | h
    · rcases List.mem_or_eq_of_mem_set h with h | rfl
      · exact Or.inl h
      · exact Or.inr List.mem_cons_self
    · exact Or.inr (List.mem_cons_of_mem _ h)

/-- the left side is `d'` in the `object` branch of `setitem`, copied from Model/Expr.lean: it has to stay that text
    for the `rw` in `setitem_ok` / `setitem_of_belongs` to find it -/
theorem setitem_object_dtype (d : DType) (vs : List Tag) (hobj : d.kind = .object) :
    (if d.nullable = false ∧ vs.contains Tag.none = true then ({ d with nullable := true } : DType) else d)
      = ⟨.object, d.nullable || vs.contains .none⟩ := by
  obtain ⟨k, n⟩ := d
  cases hobj
  cases n <;> cases vs.contains Tag.none <;> rfl

/-- the left side is `d2` of `setitem` (same remark) once `promoteVec_some` has identified `k'` with `target.kind` -/
theorem setitem_checked_dtype {d target : DType} (hn : d.nullable = true → target.nullable = true) :
    (if target.nullable = true ∧ (⟨target.kind, d.nullable⟩ : DType).nullable = false
      then ({ (⟨target.kind, d.nullable⟩ : DType) with nullable := true } : DType)
      else ⟨target.kind, d.nullable⟩) = target := by
  obtain ⟨tk, tn⟩ := target
  cases tn <;> cases hdn : d.nullable <;> simp
  exact absurd (hn hdn) (by simp)

theorem setitem_ok {ups : List (Nat × Tag)} {a r : AVec} (h : setitem ups a = .ok r) :
    r.name = a.name ∧ (a.truthful = true → r.truthful = true) := by
  unfold setitem at h
  -- the two outer tests by `rw`: `split at h` while `h` still holds the whole body costs four times the rest of the proof
  by_cases h1 : (ups.any fun u => decide (a.tags.length ≤ u.1)) = true
  · rw [if_pos h1] at h
    cases h
  rw [if_neg h1] at h
  by_cases h2 : ups.isEmpty = true
  · rw [if_pos h2] at h
    cases h
    exact ⟨rfl, id⟩
  rw [if_neg h2] at h
  split at h
  · rename_i hd
    cases h
    exact ⟨rfl, fun _ => by simp [AVec.truthful, truthful, hd]⟩
  · rename_i d hd
    rw [AVec.truthful_iff hd]
    split at h
    · -- object column: nothing is validated, a None makes it nullable
      rename_i hobj
      cases h
      refine ⟨rfl, fun ha => ?_⟩
      rw [AVec.truthful, setitem_object_dtype d _ hobj, truthful_some_iff]
      intro x hx
      cases x with
      | ty v => exact belongs_object _ _
      | none =>
        rcases mem_writeAll hx with hx | hx
        · simp [belongs, show d.nullable = true from ha _ hx]
        · simp only [belongs, Bool.or_eq_true]
          exact Or.inr (List.contains_iff_mem.mpr hx)
    · rename_i hobj
      split at h
      · cases h
      · rename_i target htar
        obtain ⟨hk, hn, hnew⟩ := setTarget_spec _ _ _ hobj htar
        split at h
        · cases h
        · rename_i k' hp
          cases h
          cases promoteVec_some hp
          refine ⟨rfl, fun ha => ?_⟩
          rw [AVec.truthful, setitem_checked_dtype hn, truthful_some_iff]
          intro x hx
          rcases mem_writeAll hx with hx | hx
          · rcases mem_promoteTags hx with ⟨hx, _⟩ | rfl
            · exact belongs_of_le hk hn (ha x hx)
            · exact belongs_of_le (Kind.le_refl _) id (belongs_self _ target.nullable)
          · exact hnew x hx

theorem setitem_truthful (ups : List (Nat × Tag)) (a r : AVec) (ha : a.truthful = true)
    (h : setitem ups a = .ok r) : r.truthful = true := (setitem_ok h).2 ha

theorem setTarget_of_belongs {d : DType} {vs : List Tag} (hobj : d.kind ≠ .object)
    (h : ∀ v ∈ vs, belongs d v = true) : setTarget d vs = .ok d := by
  induction vs with
  | nil => rfl
  | cons v vs ih =>
    rw [List.forall_mem_cons] at h
    cases v with
    | none =>
      have : ({ d with nullable := true } : DType) = d := by
        have hn : d.nullable = true := h.1
        cases d
        simp_all
      rw [setTarget, this]
      exact ih h.2
    | ty k =>
      rw [setTarget, if_pos ((validates_eq_belongs d _ hobj).trans h.1)]
      exact ih h.2

theorem setitem_of_belongs {ups : List (Nat × Tag)} {a : AVec} (hi : ∀ u ∈ ups, u.1 < a.tags.length)
    (hb : ∀ d, a.dtype = some d → ∀ v ∈ ups.map (·.2), belongs d v = true) :
    setitem ups a = .ok { a with tags := writeAll a.tags ups } := by
  unfold setitem
  rw [if_neg (by simpa using hi)]
  by_cases h2 : ups.isEmpty = true
  · rw [if_pos h2, List.isEmpty_iff.mp h2]; rfl
  rw [if_neg h2]
  cases hd : a.dtype with
  | none => rfl
  | some d =>
    have hb := hb d hd
    have hnull : (ups.map (·.2)).contains Tag.none = true → d.nullable = true :=
      fun hc => hb _ (List.contains_iff_mem.mp hc)
    dsimp only
    by_cases hobj : d.kind = .object
    · -- a None among the values already belongs, so the flag does not move
      have hn : (d.nullable || (ups.map (·.2)).contains Tag.none) = d.nullable := by
        cases hc : (ups.map (·.2)).contains Tag.none
        · exact Bool.or_false _
        · rw [hnull hc]
          rfl
      rw [if_pos hobj, setitem_object_dtype d _ hobj, hn, ← hobj]
    · rw [if_neg hobj, setTarget_of_belongs hobj hb]
      simp only [promoteVec, promoteTags, if_true]
      rw [setitem_checked_dtype id]

theorem mkVec_name (ts : List Tag) (dt : Option DType) (n : Option String) : (mkVec ts dt n).name = n := rfl
theorem copy_name (v : AVec) : v.copy.name = v.name := rfl
theorem copyWith_name (v : AVec) (ts : List Tag) : (v.copyWith ts).name = v.name := rfl

section
-- binds `ρ s op cs o` in the table lemmas up to `csv_ok`; closed before `wrap_ok`, so that `step_truthful` /
-- `step_names`, whose binders Props/C03 and Props/C18 repeat, are stated outside it
variable {ρ : Oracle} {s : Nat} {op : AOp} {cs : List AVec} {o : Obj}

theorem tab_truthful_iff (cs : List AVec) : (Obj.tab cs).truthful = true ↔ ∀ c ∈ cs, c.truthful = true := by
  simp [Obj.truthful, List.all_eq_true]

theorem tableOf_ok (h : tableOf cs = .ok o) : o = .tab (cs.map AVec.copy) := by
  unfold tableOf at h
  split at h <;> cases h
  rfl

theorem tableOf_truthful (hc : ∀ c ∈ cs, c.truthful = true)
    (h : tableOf cs = .ok o) : o.truthful = true := by
  rw [tableOf_ok h, tab_truthful_iff]
  intro c hc'
  obtain ⟨c0, h0, rfl⟩ := List.mem_map.mp hc'
  exact copy_truthful (hc c0 h0)

theorem tableOf_names (h : tableOf cs = .ok o) :
    o.names = .tab (cs.map (·.name)) := by
  rw [tableOf_ok h, Obj.names, List.map_map]
  rfl

theorem ofCols_nil : ofCols [] = .vec none := rfl
theorem ofCols_ne {ns : List (Option String)} (h : ns ≠ []) : ofCols ns = .tab ns := by
  cases ns with
  | nil => exact absurd rfl h
  | cons n ns => rfl

theorem vectorOfVecs_ok (h : vectorOfVecs cs = .ok o) :
    (cs = [] ∧ o = .vec (mkVec [] none none)) ∨ (cs ≠ [] ∧ tableOf cs = .ok o) := by
  unfold vectorOfVecs at h
  split at h
  · cases h; exact Or.inl ⟨rfl, rfl⟩
  · split at h
    · rename_i hne _
      exact Or.inr ⟨hne, h⟩
    · cases h

theorem vectorOfVecs_truthful (hc : ∀ c ∈ cs, c.truthful = true)
    (h : vectorOfVecs cs = .ok o) : o.truthful = true := by
  rcases vectorOfVecs_ok h with ⟨_, rfl⟩ | ⟨_, h⟩
  · exact mkVec_none_truthful _ _
  · exact tableOf_truthful hc h

theorem vectorOfVecs_names (h : vectorOfVecs cs = .ok o) :
    o.names = ofCols (cs.map (·.name)) := by
  rcases vectorOfVecs_ok h with ⟨rfl, rfl⟩ | ⟨hne, h⟩
  · rfl
  · rw [tableOf_names h, ofCols_ne fun e => hne (List.map_eq_nil_iff.mp e)]

theorem mapIdxM_forall {α β : Type} {f : Nat → α → Res β} {P : α → Prop} {Q : β → Prop}
    (hf : ∀ i x y, P x → f i x = .ok y → Q y) {xs : List α} {i : Nat} {ys : List β}
    (hx : ∀ x ∈ xs, P x) (h : mapIdxM f i xs = .ok ys) : ∀ y ∈ ys, Q y := by
  induction xs generalizing ys i with
  | nil => cases h; simp
  | cons x xs ih =>
    simp only [mapIdxM] at h
    split at h
    · cases h
    · rename_i y hy
      split at h
      · cases h
      · rename_i ys' hys
        cases h
        exact List.forall_mem_cons.mpr ⟨hf i x _ (hx x List.mem_cons_self) hy,
          ih (fun x' h' => hx x' (List.mem_cons_of_mem _ h')) hys⟩

theorem mapIdxM_map_eq {α β γ : Type} {f : Nat → α → Res β} {g : α → γ} {g' : β → γ}
    (hf : ∀ i x y, f i x = .ok y → g' y = g x) {xs : List α} {i : Nat} {ys : List β}
    (h : mapIdxM f i xs = .ok ys) : ys.map g' = xs.map g := by
  induction xs generalizing ys i with
  | nil => cases h; rfl
  | cons x xs ih =>
    simp only [mapIdxM] at h
    split at h
    · cases h
    · rename_i y hy
      split at h
      · cases h
      · rename_i ys' hys
        cases h
        simp only [List.map_cons, hf i x y hy, ih hys]

theorem mapM'_eq_mapIdxM {α β : Type} (f : α → Res β) (i : Nat) (xs : List α) :
    mapM' f xs = mapIdxM (fun _ => f) i xs := by
  induction xs generalizing i with
  | nil => rfl
  | cons x xs ih =>
    rw [mapM', mapIdxM, ih (i + 1)]

theorem mapM'_forall {α β : Type} {f : α → Res β} {P : α → Prop} {Q : β → Prop}
    (hf : ∀ x y, P x → f x = .ok y → Q y) {xs : List α} {ys : List β}
    (hx : ∀ x ∈ xs, P x) (h : mapM' f xs = .ok ys) : ∀ y ∈ ys, Q y :=
  mapIdxM_forall (fun _ => hf) hx (mapM'_eq_mapIdxM f 0 xs ▸ h)

theorem mapM'_map_eq {α β γ : Type} {f : α → Res β} {g : α → γ} {g' : β → γ}
    (hf : ∀ x y, f x = .ok y → g' y = g x) {xs : List α} {ys : List β}
    (h : mapM' f xs = .ok ys) : ys.map g' = xs.map g :=
  mapIdxM_map_eq (fun _ => hf) (mapM'_eq_mapIdxM f 0 xs ▸ h)

theorem mapIdxM_length {α β : Type} {f : Nat → α → Res β} {xs : List α} {i : Nat} {ys : List β}
    (h : mapIdxM f i xs = .ok ys) : ys.length = xs.length := by
  simpa using congrArg List.length (mapIdxM_map_eq (g := fun _ => ()) (g' := fun _ => ()) (fun _ _ _ _ => rfl) h)

theorem gather_map {α β : Type} (g : α → β) (d : β) {l : List α} {js : List Nat} {sel : List α}
    (h : gather l js = some sel) : sel.map g = js.map (fun j => (l.map g).getD j d) := by
  induction js generalizing sel with
  | nil => cases h; rfl
  | cons j js ih =>
    simp only [gather] at h
    split at h
    · rename_i x xs hx hxs
      cases h
      simp [ih hxs, hx]
    · cases h

/-- the hypothesis is the `match` that `tarithO` and `tarithV` (`t <op> other`) both unfold to, so `h : tarithO … = .ok o`
    applies as it stands -/
theorem renamedTable_ok {F : Nat → AVec → Res AVec}
    (h : (match mapIdxM (fun j c => match F j c with
            | .ok r => Except.ok { r with name := c.name }
            | .error e => .error e) 0 cs with
          | .error e => Except.error e
          | .ok rs => tableOf rs) = .ok o) :
    o.names = .tab (cs.map (·.name)) ∧ ((∀ j c r, F j c = .ok r → r.truthful = true) → o.truthful = true) := by
  split at h
  · cases h
  · rename_i rs hrs
    constructor
    · rw [tableOf_names h]
      congr 1
      refine mapIdxM_map_eq (fun j c r hr => ?_) hrs
      split at hr
      · cases hr; rfl
      · cases hr
    · intro hF
      refine tableOf_truthful (mapIdxM_forall (P := fun _ => True) (fun j c r _ hr => ?_) (fun _ _ => trivial) hrs) h
      split at hr
      · rename_i r0 hr0
        cases hr
        exact (truthful_with_name _ _).trans (hF j c r0 hr0)
      · cases hr

theorem colsOrSelf_truthful (h : o.truthful = true) : ∀ c ∈ o.colsOrSelf, c.truthful = true := by
  cases o with
  | vec v => exact fun c hc => List.mem_singleton.mp hc ▸ h
  | tab cs => exact (tab_truthful_iff cs).mp h

theorem colsOrSelf_names (o : Obj) : o.colsOrSelf.map (·.name) = o.names.cols := by
  cases o <;> rfl

theorem rshift_ok {x y : Obj} (h : rshift x y = .ok o) :
    o.names = ofCols (x.names.cols ++ y.names.cols) ∧
      (x.truthful = true → y.truthful = true → o.truthful = true) := by
  -- a successful `>>` is `Vector(tuple_of_columns)` on the columns of both sides
  have hv : vectorOfVecs (x.colsOrSelf ++ y.colsOrSelf) = .ok o := by
    unfold rshift at h
    split at h
    · split at h
      · cases h
      · split at h
        · cases h
        · exact h
    · split at h
      · cases h
      · split at h
        · cases h
        · exact h
    · exact h
  constructor
  · rw [vectorOfVecs_names hv, List.map_append, colsOrSelf_names, colsOrSelf_names]
  · intro hx hy
    exact vectorOfVecs_truthful (List.forall_mem_append.mpr ⟨colsOrSelf_truthful hx, colsOrSelf_truthful hy⟩) hv

theorem rshiftO_ok {x : Obj} {ot : Other} (h : rshiftO x ot = .ok o) :
    o.names = .tab (x.names.cols ++ [none]) ∧ (x.truthful = true → o.truthful = true) := by
  have hv : ∃ ys, vectorOfVecs (x.colsOrSelf ++ [mkVec ys none none]) = .ok o := by
    unfold rshiftO at h
    split at h
    · cases h
    · split at h
      · split at h
        · cases h
        · exact ⟨_, h⟩
      · exact ⟨_, h⟩
  obtain ⟨ys, hv⟩ := hv
  constructor
  · rw [vectorOfVecs_names hv, ofCols_ne (by simp), List.map_append, colsOrSelf_names]
    rfl
  · intro hx
    have hnew : ∀ c ∈ [mkVec ys none none], c.truthful = true := by simp [mkVec_none_truthful]
    exact vectorOfVecs_truthful (List.forall_mem_append.mpr ⟨colsOrSelf_truthful hx, hnew⟩) hv

theorem zipNames_ok (ns : List String) (vs : List AVec) :
    ((∀ v ∈ vs, v.truthful = true) → ∀ c ∈ zipNames ns vs, c.truthful = true) ∧
      (ns.length = vs.length → (zipNames ns vs).map (·.name) = ns.map some) := by
  induction ns generalizing vs with
  | nil => cases vs <;> simp [zipNames]
  | cons n ns ih =>
    cases vs with
    | nil => simp [zipNames]
    | cons v vs =>
      refine ⟨fun hv => ?_, fun h => ?_⟩
      · rw [List.forall_mem_cons] at hv
        exact List.forall_mem_cons.mpr ⟨copy_truthful hv.1, (ih vs).1 hv.2⟩
      · simp only [zipNames, List.map_cons, (ih vs).2 (Nat.succ.inj h)]

theorem rshiftDict_ok {ns : List String} {vs : List AVec} (h : rshiftDict ns cs vs = .ok o) :
    o.names = .tab (cs.map (·.name) ++ ns.map some) ∧
      ((∀ c ∈ cs, c.truthful = true) → (∀ v ∈ vs, v.truthful = true) → o.truthful = true) := by
  unfold rshiftDict at h
  split at h
  · cases h
  · rename_i hl
    split at h
    · cases h
    · constructor
      · rw [tableOf_names h, List.map_append, (zipNames_ok ns vs).2 (Decidable.of_not_not hl)]
      · intro hc hv
        exact tableOf_truthful (List.forall_mem_append.mpr ⟨hc, (zipNames_ok ns vs).1 hv⟩) h

theorem zipLeaf_ok (ns : List String) (cols : List (List Tag)) :
    (∀ c ∈ zipLeaf ns cols, c.truthful = true) ∧
      (ns.length = cols.length → (zipLeaf ns cols).map (·.name) = ns.map some) := by
  induction ns generalizing cols with
  | nil => cases cols <;> simp [zipLeaf]
  | cons n ns ih =>
    cases cols with
    | nil => simp [zipLeaf]
    | cons c cs =>
      constructor
      · exact List.forall_mem_cons.mpr ⟨mkVec_none_truthful _ _, (ih cs).1⟩
      · intro h
        simp only [zipLeaf, List.map_cons, mkVec_name, (ih cs).2 (Nat.succ.inj h)]

/-- the model names this function twice (`Table({…})` and the aggregate result) -/
theorem zipCols_eq_zipLeaf : zipCols = zipLeaf := by
  funext ns cols
  induction ns generalizing cols with
  | nil => rfl
  | cons n ns ih =>
    cases cols with
    | nil => rfl
    | cons c cs => rw [zipCols, zipLeaf, ih]

theorem tableDict_ok {ns : List String} {cols : List (List Tag)} (h : tableDict ns cols = .ok o) :
    o.truthful = true ∧ o.names = .tab (ns.map some) := by
  unfold tableDict at h
  split at h
  · cases h
  · rename_i hl
    constructor
    · exact tableOf_truthful (zipLeaf_ok _ _).1 h
    · rw [tableOf_names h, (zipLeaf_ok _ _).2 (Decidable.of_not_not hl)]

theorem rowSel_ok {f : AVec → Res AVec} (hf : ∀ c r, f c = .ok r → IsSelection c r)
    (h : rowSel f cs = .ok o) :
    o.names = ofCols (cs.map (·.name)) ∧ ((∀ c ∈ cs, c.truthful = true) → o.truthful = true) := by
  unfold rowSel at h
  split at h
  · cases h
  · rename_i cs' hcs
    constructor
    · rw [vectorOfVecs_names h, mapM'_map_eq (fun c r hr => (hf c r hr).name) hcs]
    · intro hc
      exact vectorOfVecs_truthful (mapM'_forall (fun c r hc hr => (hf c r hr).truthful hc) hc hcs) h

theorem selCols_ok {js : List Nat} (h : selCols js cs = .ok o) :
    o.names = .tab (js.map (fun j => (cs.map (·.name)).getD j none)) ∧
      ((∀ c ∈ cs, c.truthful = true) → o.truthful = true) := by
  unfold selCols at h
  split at h
  · cases h
  · rename_i sel hsel
    constructor
    · rw [tableOf_names h, gather_map (fun c : AVec => c.name) none hsel]
    · intro hc
      exact tableOf_truthful (fun c hc' => hc c (gather_mem hsel c hc')) h

theorem selCol_ok {j : Nat} (h : selCol j cs = .ok o) :
    o.names = .vec ((cs.map (·.name)).getD j none) ∧ ((∀ c ∈ cs, c.truthful = true) → o.truthful = true) := by
  unfold selCol at h
  split at h
  · cases h
  · rename_i c hj
    cases h
    constructor
    · simp [Obj.names, hj]
    · exact fun hc => hc _ (List.mem_of_getElem? hj)

theorem rowOf_ok {i : Nat} (h : rowOf i cs = .ok o) :
    o.names = .vec none ∧ ((∀ c ∈ cs, c.truthful = true) → o.truthful = true) := by
  unfold rowOf at h
  split at h
  · cases h
  · rename_i xs hxs
    cases h
    refine ⟨rfl, fun hc => ?_⟩
    have hp : ∀ p ∈ xs, belongs p.2 p.1 = true := by
      refine mapM'_forall (P := fun c => c.truthful = true) (fun c p hct hcp => ?_) hc hxs
      split at hcp
      · rename_i x hx
        cases hcp
        cases hd : c.dtype with
        | none => exact belongs_object_nullable x
        | some d => exact (AVec.truthful_iff hd).mp hct x (List.mem_of_getElem? hx)
      · cases hcp
    show truthful _ (some _) = true
    rw [truthful_some_iff]
    intro t ht
    obtain ⟨p, hpm, rfl⟩ := List.mem_map.mp ht
    cases xs with
    | nil => cases hpm
    | cons q rest =>
      dsimp only
      split
      · -- all columns of one kind: that kind, nullable if any column is
        rename_i hall
        have hk : p.2.kind = q.2.kind := by
          rcases List.mem_cons.mp hpm with rfl | hm
          · rfl
          · simpa using List.all_eq_true.mp hall p hm
        exact belongs_of_le (d' := ⟨q.2.kind, _⟩) (hk ▸ Kind.le_refl _)
          (fun hn => List.any_eq_true.mpr ⟨p, hpm, hn⟩) (hp p hpm)
      · exact belongs_object_nullable _

theorem zipArith_ok {j : Nat} {ls rs out : List AVec}
    (h : zipArith ρ s op j ls rs = .ok out) :
    (∀ c ∈ out, c.truthful = true) ∧ out.map (·.name) = zipResolve (ls.map (·.name)) (rs.map (·.name)) := by
  induction ls generalizing rs j out with
  | nil =>
    simp only [zipArith] at h
    cases h
    exact ⟨by simp, rfl⟩
  | cons l ls ih =>
    cases rs with
    | nil =>
      simp only [zipArith] at h
      cases h
      exact ⟨by simp, rfl⟩
    | cons r rs =>
      simp only [zipArith] at h
      split at h
      · cases h
      · rename_i x hx
        split at h
        · cases h
        · rename_i xs hxs
          cases h
          obtain ⟨ht, hn⟩ := ih hxs
          constructor
          · exact List.forall_mem_cons.mpr ⟨(truthful_with_name _ _).trans (arithVV_ok hx).1, ht⟩
          · simp only [List.map_cons, zipResolve, hn]

theorem tarithT_ok {ls rs : List AVec}
    (h : tarithT ρ s op ls rs = .ok o) :
    o.truthful = true ∧ o.names = .tab (zipResolve (ls.map (·.name)) (rs.map (·.name))) := by
  unfold tarithT at h
  split at h
  · cases h
  · split at h
    · cases h
    · rename_i out hout
      constructor
      · exact tableOf_truthful (zipArith_ok hout).1 h
      · rw [tableOf_names h, (zipArith_ok hout).2]

theorem tableOf_map_mk_truthful {α : Type} {xs : List α} {f : α → List Tag} {g : α → Option String}
    (h : tableOf (xs.map fun x => mkVec (f x) none (g x)) = .ok o) : o.truthful = true := by
  refine tableOf_truthful (fun c hc => ?_) h
  obtain ⟨_, _, rfl⟩ := List.mem_map.mp hc
  exact mkVec_none_truthful _ _

theorem transposeT_ok (h : transposeT cs = .ok o) :
    o.truthful = true ∧ o.names = .tab (List.replicate (nrowsOf cs) none) := by
  refine ⟨tableOf_map_mk_truthful h, ?_⟩
  rw [tableOf_names h]
  simp [Function.comp_def, mkVec_name, List.map_const']

theorem join_ok {k : JoinKind} {pairs : List (Option Nat × Option Nat)} {ls rs : List AVec}
    (h : join k pairs ls rs = .ok o) :
    o.truthful = true ∧ o.names = nameRule (fun _ => none) (.join k pairs) [(Obj.tab ls).sh, (Obj.tab rs).sh] := by
  -- whichever test says "empty", the result is the empty table or a table of columns built without dtype
  have key : ∀ (e : Bool) (cols : List AVec), (∀ c ∈ cols, c.truthful = true) →
      (if e = true then Except.ok (Obj.tab []) else tableOf cols) = .ok o →
      o.truthful = true ∧ o.names = if e = true then .tab [] else .tab (cols.map (·.name)) := by
    intro e cols hc h
    split at h
    · rename_i he
      cases h
      rw [if_pos he]
      exact ⟨rfl, rfl⟩
    · rename_i he
      rw [if_neg he]
      exact ⟨tableOf_truthful hc h, tableOf_names h⟩
  refine (key _ _ (fun c hc => ?_) h).imp_right fun hn => hn.trans ?_
  · simp only [List.mem_append, List.mem_map] at hc
    rcases hc with ⟨_, _, rfl⟩ | ⟨_, _, rfl⟩ <;> exact mkVec_none_truthful _ _
  -- the rule's test for "empty" is the code's, read on the names and row counts
  · cases k <;> simp [nameRule, shCols, Obj.sh, Obj.names, Obj.nrows, Names.cols, Function.comp_def, mkVec_name]

theorem aggNames_length (san : String → Option String) (cols : List (Option String)) (a : AggArgs) :
    (aggNames san cols a).length = a.keys.length + a.flat.length := by
  simp [aggNames, uniqAll_length, aggCands]

theorem aggregate_ok {w : Bool} {a : AggArgs} {rg : List Nat} {ng : Nat}
    (h : aggregate ρ s w a rg ng cs = .ok o) :
    o.truthful = true ∧ o.names = .tab ((aggNames ρ.san (cs.map (·.name)) a).map some) := by
  unfold aggregate at h
  split at h
  · cases h
  · dsimp only at h
    split at h
    · cases h
    · rename_i aggCols hagg
      rw [zipCols_eq_zipLeaf] at h
      refine ⟨tableOf_truthful (zipLeaf_ok _ _).1 h, ?_⟩
      rw [tableOf_names h, (zipLeaf_ok _ _).2]
      simp [aggNames_length, mapIdxM_length hagg]

theorem sortT_ok {p : List Nat} (h : sortT p cs = .ok o) :
    o.truthful = true ∧ o.names = .tab (cs.map (·.name)) := by
  unfold sortT at h
  split at h
  · constructor
    · exact tableOf_map_mk_truthful h
    · rw [tableOf_names h, List.map_map]
      rfl
  · split at h
    · cases h
    · rename_i cs' hcs
      have hcol : ∀ (c r : AVec), (match gather c.tags p with
          | some ts => Except.ok (mkVec ts none c.name)
          | none => Except.error Err.other) = .ok r → r.truthful = true ∧ r.name = c.name := by
        intro c r hr
        split at hr
        · cases hr; exact ⟨mkVec_none_truthful _ _, rfl⟩
        · cases hr
      constructor
      · exact tableOf_truthful
          (mapM'_forall (P := fun _ => True) (fun c r _ hr => (hcol c r hr).1) (fun _ _ => trivial) hcs) h
      · rw [tableOf_names h, mapM'_map_eq (fun c r hr => (hcol c r hr).2) hcs]

theorem tabSet_ok {j : Nat} {ups : List (Nat × Tag)} (h : tabSet j ups cs = .ok o) :
    o.names = .tab (cs.map (·.name)) ∧ ((∀ c ∈ cs, c.truthful = true) → o.truthful = true) := by
  have hs : ∃ c c', cs[j]? = some c ∧ setitem ups c = .ok c' ∧ o = .tab (cs.set j c') := by
    unfold tabSet at h
    split at h
    · cases h
    · rename_i c hj
      split at h
      · cases h
      · rename_i c' hc'
        cases h
        exact ⟨c, c', hj, hc', rfl⟩
  obtain ⟨c, c', hj, hc', rfl⟩ := hs
  constructor
  · -- the column written keeps its name (`setitem_ok`), so position `j` of the names is set to what is there already
    obtain ⟨hlt, rfl⟩ := List.getElem?_eq_some_iff.mp hj
    have hlt' : j < (cs.map (·.name)).length := by simpa using hlt
    rw [Obj.names, List.map_set, (setitem_ok hc').1, ← List.getElem_map (fun c : AVec => c.name) (h := hlt'),
      List.set_getElem_self]
  · intro hc
    rw [tab_truthful_iff]
    intro x hx
    rcases List.mem_or_eq_of_mem_set hx with hx | rfl
    · exact hc x hx
    · exact setitem_truthful _ _ _ (hc c (List.mem_of_getElem? hj)) hc'

theorem csv_ok {hdr : Option (List String)} {rows : List (List Tag)} (h : csv hdr rows = .ok o) :
    o.truthful = true ∧ o.names = nameRule (fun _ => none) (.csv hdr rows) [] := by
  unfold csv at h
  extract_lets header at h
  have hrule : nameRule (fun _ => none) (.csv hdr rows) [] = .tab (header.map some) := by
    cases hdr <;> simp [nameRule, header, Function.comp_def]
  rw [hrule]
  split at h
  · rename_i hc
    cases h
    have : header = [] := by simp [header, hc.1, List.isEmpty_iff.mp hc.2]
    rw [this]
    exact ⟨rfl, rfl⟩
  · split at h
    · constructor
      · exact tableOf_map_mk_truthful h
      · rw [tableOf_names h, List.map_map]
        rfl
    · refine ⟨tableOf_map_mk_truthful h, ?_⟩
      rw [tableOf_names h, List.map_map]
      congr 1
      refine List.ext_getElem (by simp) fun i h1 _ => ?_
      have hi : i < header.length := by simpa using h1
      simp [mkVec_name, hi]

end

theorem wrap_ok {r : Res AVec} {o : Obj} (h : wrap r = .ok o) : ∃ v, r = .ok v ∧ o = .vec v := by
  unfold wrap at h
  split at h
  · cases h; exact ⟨_, rfl, rfl⟩
  · cases h

theorem wrap_truthful {r : Res AVec} {o : Obj} (hr : ∀ v, r = .ok v → v.truthful = true)
    (h : wrap r = .ok o) : o.truthful = true := by
  obtain ⟨v, hv, rfl⟩ := wrap_ok h
  exact hr v hv

theorem wrap_names {r : Res AVec} {o : Obj} {n : Option String} (hr : ∀ v, r = .ok v → v.name = n)
    (h : wrap r = .ok o) : o.names = .vec n := by
  obtain ⟨v, hv, rfl⟩ := wrap_ok h
  exact congrArg Names.vec (hr v hv)

theorem vecs_ok {os : List Obj} {vs : List AVec} (h : vecs os = some vs) :
    ((∀ o ∈ os, o.truthful = true) → ∀ v ∈ vs, v.truthful = true) ∧
      vs.map (·.name) = os.map (fun o => o.sh.names.vecName) := by
  induction os generalizing vs with
  | nil => cases h; exact ⟨by simp, rfl⟩
  | cons o os ih =>
    cases o with
    | tab cs => cases h
    | vec v =>
      obtain ⟨vs', hvs, rfl⟩ := Option.map_eq_some_iff.mp h
      refine ⟨fun ho => ?_, ?_⟩
      · rw [List.forall_mem_cons] at ho
        exact List.forall_mem_cons.mpr ⟨ho.1, (ih hvs).1 ho.2⟩
      · simp only [List.map_cons, (ih hvs).2]
        rfl

/-- one operation: the names of its result are a function of the operands' names and row counts (its rule), and the result is
    truthful when the operands are (for constructors that return instances of their class) -/
theorem step_ok (ρ : Oracle) (op : Op) (args : List Obj) (o : Obj) (h : step ρ op args = .ok o) :
    o.names = nameRule ρ.san op (args.map Obj.sh) ∧
      (CastSound ρ → (∀ a ∈ args, a.truthful = true) → o.truthful = true) := by
  have h0 : ∀ {a : Obj} {as : List Obj}, (∀ x ∈ a :: as, x.truthful = true) → a.truthful = true :=
    fun ha => ha _ List.mem_cons_self
  have t0 : ∀ {cs : List AVec} {as : List Obj},
      (∀ x ∈ Obj.tab cs :: as, x.truthful = true) → ∀ c ∈ cs, c.truthful = true :=
    fun ha => (tab_truthful_iff _).mp (h0 ha)
  -- the branches come in the order of `step`'s `match`; in each, `args` has become the literal operand list, so `h0 ha`
  -- reads "the first operand is truthful".  Each bullet: the names, then truthfulness under the two hypotheses.
  unfold step at h
  split at h
  · cases h  -- .leaf
    exact ⟨rfl, fun _ _ => mkVec_none_truthful _ _⟩
  · exact ⟨(tableDict_ok h).2, fun _ _ => (tableDict_ok h).1⟩
  · exact ⟨(csv_ok h).2, fun _ _ => (csv_ok h).1⟩
  · exact ⟨wrap_names (fun _ hv => (arithVV_ok hv).2) h,
      fun _ _ => wrap_truthful (fun _ hv => (arithVV_ok hv).1) h⟩
  · exact ⟨wrap_names (fun _ hv => (arithVO_ok hv).2) h,
      fun _ _ => wrap_truthful (fun _ hv => (arithVO_ok hv).1) h⟩
  · exact ⟨wrap_names (fun _ hv => (cmpVV_ok hv).2) h,
      fun _ _ => wrap_truthful (fun _ hv => (cmpVV_ok hv).1) h⟩
  · exact ⟨wrap_names (fun _ hv => (cmpVO_ok hv).2) h,
      fun _ _ => wrap_truthful (fun _ hv => (cmpVO_ok hv).1) h⟩
  · exact ⟨wrap_names (fun _ hv => (finishKeep_ok hv).2) h,  -- .unary
      fun _ _ => wrap_truthful (unary_truthful _ _ _) h⟩
  · exact ⟨wrap_names (fun _ hv => (cast_ok hv).1) h,
      fun hρ _ => wrap_truthful (fun _ hv => (cast_ok hv).2 hρ) h⟩
  · exact ⟨wrap_names (fun _ hv => (fillna_ok hv).1) h,
      fun _ ha => wrap_truthful (fun _ hv => (fillna_ok hv).2 (h0 ha)) h⟩
  · exact ⟨wrap_names (fun _ hv => (dropna_ok hv).1) h,
      fun _ ha => wrap_truthful (fun _ hv => (dropna_ok hv).2 (h0 ha)) h⟩
  · cases h
    exact ⟨rfl, fun _ _ => isna_truthful _⟩
  · cases h
    exact ⟨rfl, fun _ _ => toObject_truthful _⟩
  · cases h
    exact ⟨rfl, fun _ ha => copy_truthful (h0 ha)⟩
  · exact ⟨wrap_names (fun _ hv => (sortV_ok hv).name) h,
      fun _ ha => wrap_truthful (fun _ hv => (sortV_ok hv).truthful (h0 ha)) h⟩
  · exact ⟨wrap_names (fun _ hv => (getIdx_ok hv).name) h,
      fun _ ha => wrap_truthful (fun _ hv => (getIdx_ok hv).truthful (h0 ha)) h⟩
  · exact ⟨wrap_names (fun _ hv => (getMask_ok hv).name) h,
      fun _ ha => wrap_truthful (fun _ hv => (getMask_ok hv).truthful (h0 ha)) h⟩
  · exact ⟨wrap_names (fun _ hv => (getV_ok hv).name) h,
      fun _ ha => wrap_truthful (fun _ hv => (getV_ok hv).truthful (h0 ha)) h⟩
  · exact ⟨wrap_names (fun _ hv => (setitem_ok hv).1) h,
      fun _ ha => wrap_truthful (fun _ hv => (setitem_ok hv).2 (h0 ha)) h⟩
  · exact ⟨wrap_names (fun _ hv => (lshiftVV_ok hv).2) h,
      fun _ _ => wrap_truthful (fun _ hv => (lshiftVV_ok hv).1) h⟩
  · exact ⟨wrap_names (fun _ hv => (lshiftVO_ok hv).2) h,
      fun _ _ => wrap_truthful (fun _ hv => (lshiftVO_ok hv).1) h⟩
  · exact ⟨(rshift_ok h).1,
      fun _ ha => (rshift_ok h).2 (h0 ha) (ha _ (List.mem_cons_of_mem _ List.mem_cons_self))⟩
  · exact ⟨(rshiftO_ok h).1, fun _ ha => (rshiftO_ok h).2 (h0 ha)⟩
  · split at h
    · rename_i vs' hvs
      exact ⟨(rshiftDict_ok h).1,
        fun _ ha => (rshiftDict_ok h).2 (t0 ha) ((vecs_ok hvs).1 fun o' h' => ha o' (List.mem_cons_of_mem _ h'))⟩
    · cases h
  · split at h  -- .table
    · rename_i vs' hvs
      constructor
      · rw [tableOf_names h, (vecs_ok hvs).2]
        simp [nameRule, List.map_map, Function.comp_def]
      · exact fun _ ha => tableOf_truthful ((vecs_ok hvs).1 ha) h
    · cases h
  · exact ⟨(selCol_ok h).1, fun _ ha => (selCol_ok h).2 (t0 ha)⟩
  · exact ⟨(selCols_ok h).1, fun _ ha => (selCols_ok h).2 (t0 ha)⟩
  · exact ⟨(rowOf_ok h).1, fun _ ha => (rowOf_ok h).2 (t0 ha)⟩
  · exact ⟨(rowSel_ok (fun _ _ => getIdx_ok) h).1, fun _ ha => (rowSel_ok (fun _ _ => getIdx_ok) h).2 (t0 ha)⟩
  · exact ⟨(rowSel_ok (fun _ _ => getMask_ok) h).1, fun _ ha => (rowSel_ok (fun _ _ => getMask_ok) h).2 (t0 ha)⟩
  · exact ⟨(rowSel_ok (fun _ _ => getV_ok) h).1, fun _ ha => (rowSel_ok (fun _ _ => getV_ok) h).2 (t0 ha)⟩
  · exact ⟨(tarithT_ok h).2, fun _ _ => (tarithT_ok h).1⟩
  -- `by exact`: the argument is elaborated only after `h` has fixed `F`, the column operation
  · exact ⟨(renamedTable_ok h).1, fun _ _ => (renamedTable_ok h).2 fun _ _ _ hr => by exact (arithVV_ok hr).1⟩
  · exact ⟨(renamedTable_ok h).1, fun _ _ => (renamedTable_ok h).2 fun _ _ _ hr => by exact (arithVO_ok hr).1⟩
  · exact ⟨(transposeT_ok h).2, fun _ _ => (transposeT_ok h).1⟩
  · exact ⟨(join_ok h).2, fun _ _ => (join_ok h).1⟩
  · exact ⟨(aggregate_ok h).2, fun _ _ => (aggregate_ok h).1⟩
  · exact ⟨(sortT_ok h).2, fun _ _ => (sortT_ok h).1⟩
  · exact ⟨(tabSet_ok h).1, fun _ ha => (tabSet_ok h).2 (t0 ha)⟩
  · cases h

theorem step_truthful (ρ : Oracle) (hρ : CastSound ρ) (op : Op) (args : List Obj) (o : Obj)
    (hargs : ∀ a ∈ args, a.truthful = true)
    (h : step ρ op args = .ok o) : o.truthful = true := (step_ok ρ op args o h).2 hρ hargs

theorem step_names (ρ : Oracle) (op : Op) (args : List Obj) (o : Obj) (h : step ρ op args = .ok o) :
    o.names = nameRule ρ.san op (args.map Obj.sh) := (step_ok ρ op args o h).1

mutual
theorem eval_induction (ρ : Oracle) {P : Expr → Obj → Prop} {Q : Args → List Obj → Prop}
    (node : ∀ op args os o, Q args os → step ρ op os = .ok o → P (.node op args) o) (nil : Q .nil [])
    (cons : ∀ e es o os, eval ρ e = .ok o → P e o → Q es os → Q (.cons e es) (o :: os)) :
    ∀ e o, eval ρ e = .ok o → P e o
  | .node op args, o, he => by
    simp only [eval] at he
    split at he
    · rename_i os hos
      exact node op args os o (evalArgs_induction ρ node nil cons args os hos) he
    · cases he
theorem evalArgs_induction (ρ : Oracle) {P : Expr → Obj → Prop} {Q : Args → List Obj → Prop}
    (node : ∀ op args os o, Q args os → step ρ op os = .ok o → P (.node op args) o) (nil : Q .nil [])
    (cons : ∀ e es o os, eval ρ e = .ok o → P e o → Q es os → Q (.cons e es) (o :: os)) :
    ∀ es os, evalArgs ρ es = .ok os → Q es os
  | .nil, os, he => by
    cases he
    exact nil
  | .cons e es, os, he => by
    simp only [evalArgs] at he
    split at he
    · cases he
    · rename_i o ho
      split at he
      · cases he
      · rename_i os' hos
        cases he
        exact cons e es o os' ho (eval_induction ρ node nil cons e o ho)
          (evalArgs_induction ρ node nil cons es os' hos)
end

end Serif.X
