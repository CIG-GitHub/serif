/- Lemmas of the insertion-ordered dictionary of `Serif/Prelude.lean`: what `get?` and `keys` see of an `upsert`; a dictionary with
   distinct keys as a `map` over its keys; position buckets. -/
import Serif.Prelude

namespace Serif.Dict
variable {κ ν : Type} [DecidableEq κ]

theorem get?_upsert (d : Dict κ ν) (k k' : κ) (f : Option ν → ν) :
    Dict.get? (Dict.upsert d k f) k' = if k = k' then some (f (Dict.get? d k)) else Dict.get? d k' := by
  induction d with
  | nil => simp [upsert, get?]
  | cons p rest ih =>
    obtain ⟨a, v⟩ := p
    by_cases h : a = k
    · subst h
      by_cases h' : a = k' <;> simp [upsert, get?, h']
    · by_cases h' : a = k'
      · subst h'
        have : ¬ k = a := fun e => h e.symm
        simp [upsert, get?, h, this]
      · simp [upsert, get?, h, h', ih]

theorem upsert_congr (d : Dict κ ν) (k : κ) (f g : Option ν → ν) (h : f (Dict.get? d k) = g (Dict.get? d k)) :
    Dict.upsert d k f = Dict.upsert d k g := by
  induction d with
  | nil => exact congrArg (fun v => [(k, v)]) h
  | cons p rest ih =>
    rw [get?] at h
    rw [upsert, upsert]
    split
    · next e =>
      rw [if_pos e] at h
      rw [h]
    · next e =>
      rw [if_neg e] at h
      rw [ih h]

theorem upsert_of_not_mem (d : Dict κ ν) (k : κ) (f : Option ν → ν) (h : k ∉ Dict.keys d) :
    Dict.upsert d k f = d ++ [(k, f none)] := by
  induction d with
  | nil => rfl
  | cons p rest ih =>
    simp only [keys, List.map_cons, List.mem_cons, not_or] at h
    rw [upsert, if_neg (fun e => h.1 e.symm), ih h.2]
    rfl

theorem keys_upsert_of_mem (d : Dict κ ν) (k : κ) (f : Option ν → ν) (h : k ∈ Dict.keys d) :
    Dict.keys (Dict.upsert d k f) = Dict.keys d := by
  induction d with
  | nil => cases h
  | cons p rest ih =>
    rw [upsert]
    split
    · rfl
    · next hne => exact congrArg (p.1 :: ·) (ih ((List.mem_cons.mp h).resolve_left fun e => hne e.symm))

theorem keys_upsert (d : Dict κ ν) (k : κ) (f : Option ν → ν) :
    Dict.keys (Dict.upsert d k f) = if k ∈ Dict.keys d then Dict.keys d else Dict.keys d ++ [k] := by
  split
  · next h => exact keys_upsert_of_mem d k f h
  · next h =>
    rw [upsert_of_not_mem d k f h]
    simp [keys]

theorem get?_eq_none_of_not_mem (d : Dict κ ν) (k : κ) (h : k ∉ Dict.keys d) : Dict.get? d k = none := by
  induction d with
  | nil => rfl
  | cons p rest ih =>
    simp only [keys, List.map_cons, List.mem_cons, not_or] at h
    rw [get?, if_neg (fun e => h.1 e.symm), ih h.2]

theorem get?_isSome_of_mem (d : Dict κ ν) (k : κ) (h : k ∈ Dict.keys d) : (Dict.get? d k).isSome := by
  induction d with
  | nil => cases h
  | cons p rest ih =>
    rw [get?]
    split
    · rfl
    · next hne => exact ih ((List.mem_cons.mp h).resolve_left fun e => hne e.symm)

/-- `dflt` is never reached: every key of `d` is found -/
theorem eq_map_keys (d : Dict κ ν) (dflt : ν) (h : (Dict.keys d).Nodup) :
    d = (Dict.keys d).map (fun k => (k, (Dict.get? d k).getD dflt)) := by
  induction d with
  | nil => rfl
  | cons p rest ih =>
    obtain ⟨a, v⟩ := p
    simp only [keys, List.map_cons, List.nodup_cons] at h
    simp only [keys, List.map_cons, get?, if_true, Option.getD_some, List.cons.injEq, true_and]
    rw [List.map_map]
    -- `rest` stands on both sides: only the left one is to be rewritten
    conv =>
      lhs
      rw [ih h.2]
    simp only [keys, List.map_map]
    apply List.map_congr_left
    intro p hp
    have : ¬ a = p.1 := by
      intro e
      apply h.1
      rw [e]
      exact List.mem_map.mpr ⟨p, hp, rfl⟩
    simp [this]

theorem get?_map_pair (l : List κ) (G : κ → ν) (k : κ) :
    Dict.get? (l.map (fun k => (k, G k))) k = if k ∈ l then some (G k) else none := by
  induction l with
  | nil => rfl
  | cons x xs ih =>
    rw [List.map_cons, get?, ih]
    by_cases e : x = k
    · simp [e]
    · have : ¬ k = x := fun h => e h.symm
      simp [e, this]

theorem foldl_upsert_fresh {γ : Type} (gs : List γ) (key : γ → κ) (F : γ → ν) (acc : Dict κ ν)
    (hn : (gs.map key).Nodup) (hd : ∀ g ∈ gs, key g ∉ Dict.keys acc) :
    gs.foldl (fun out g => Dict.upsert out (key g) (fun _ => F g)) acc = acc ++ gs.map (fun g => (key g, F g)) := by
  induction gs generalizing acc with
  | nil => simp
  | cons g gs ih =>
    simp only [List.map_cons, List.nodup_cons] at hn
    simp only [List.foldl_cons]
    rw [upsert_of_not_mem _ _ _ (hd g List.mem_cons_self), ih _ hn.2]
    · simp
    · intro g' hg'
      simp only [keys, List.map_append, List.map_cons, List.map_nil, List.mem_append,
        List.mem_singleton, not_or]
      refine ⟨hd g' (List.mem_cons_of_mem _ hg'), ?_⟩
      intro e
      exact hn.1 (e ▸ List.mem_map.mpr ⟨g', hg', rfl⟩)

def bucket {α : Type} (d : Dict κ (List α)) (k : κ) : List α := (Dict.get? d k).getD []

theorem bucket_upsert_snoc {α : Type} (d : Dict κ (List α)) (k k' : κ) (f : Option (List α) → List α) (i : α)
    (hf : f (Dict.get? d k) = bucket d k ++ [i]) :
    bucket (Dict.upsert d k f) k' = if k = k' then bucket d k ++ [i] else bucket d k' := by
  rw [bucket, get?_upsert, hf]
  split <;> rfl

end Serif.Dict
