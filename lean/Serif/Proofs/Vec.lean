/-
  The elementwise model (Serif/Model/Vec.lean) in three sentences: `apply`, the three operand branches, sequences the per-position
  requirements `specCells` of the executable specification; every binary operator, direct or reflected, on a plain or a date
  vector, is `apply` of `cell` in the written operand order; the date comparison is `compare` with the converted comparison in
  the place of `op`.  Props/C05 and Props/C06 are read off these.
  Suffixes: `_seq` in `apply_eq_seq`, `conformsCells_seq` is the sequencing of requirements, `seqOp_*` are about the sequence
  operand; `_total` in `conformsCells_total` is "every position defined", in `apply_total`, `mapRes_total` "the call returns".
-/
import Serif.Model.Vec
import Serif.Proofs.Util

namespace Serif.Vec

variable {α β γ ρ σ : Type}

theorem mapRes_eq_mapM (f : α → Res β) (l : List α) : mapRes f l = l.mapM f := by
  induction l with
  | nil => rfl
  | cons a as ih =>
    rw [List.mapM_cons, ← ih, mapRes]
    cases f a with
    | error e => rfl
    | ok b => cases mapRes f as <;> rfl

theorem mapRes_eq_ok_iff {f : α → Res β} {l : List α} {r : List β} :
    mapRes f l = .ok r ↔ l.map f = r.map .ok := by
  rw [mapRes_eq_mapM]; exact List.mapM_except_eq_ok_iff

theorem mapRes_error {f : α → Res β} {l : List α} {e : Err} (h : mapRes f l = .error e) :
    ∃ a ∈ l, f a = .error e :=
  List.exists_of_mapM_eq_error (mapRes_eq_mapM f l ▸ h)

section MapResOk
variable {f : α → Res β} {l : List α} {r : List β}

theorem mapRes_ok_length (h : mapRes f l = .ok r) : r.length = l.length :=
  List.length_of_mapM_eq_ok (mapRes_eq_mapM f l ▸ h)

theorem mapRes_ok_getElem? (h : mapRes f l = .ok r) {i : Nat} {a : α} (ha : l[i]? = some a) :
    ∃ b, f a = .ok b ∧ r[i]? = some b :=
  List.getElem?_of_mapM_eq_ok (mapRes_eq_mapM f l ▸ h) ha

theorem mapRes_ok_pointwise (h : mapRes f l = .ok r) :
    r.length = l.length ∧ ∀ (i : Nat) (a : α), l[i]? = some a → ∃ b, r[i]? = some b ∧ f a = .ok b :=
  ⟨mapRes_ok_length h, fun _ _ ha => (mapRes_ok_getElem? h ha).imp fun _ hb => hb.symm⟩

theorem mapRes_eq_ok_map {g : α → β} (h : ∀ a ∈ l, f a = .ok (g a)) : mapRes f l = .ok (l.map g) := by
  rw [mapRes_eq_ok_iff, List.map_map]
  exact List.map_congr_left h

theorem mapRes_total (h : ∀ a ∈ l, ∃ b, f a = .ok b) : ∃ r, mapRes f l = .ok r :=
  mapRes_eq_mapM f l ▸ List.mapM_eq_ok_of_forall h

end MapResOk

theorem mapRes_congr {f g : α → Res β} {l : List α} (h : ∀ a ∈ l, f a = g a) :
    mapRes f l = mapRes g l := by
  rw [mapRes_eq_mapM, mapRes_eq_mapM, List.mapM_congr_left h]

theorem mapRes_map (g : α → β) (f : β → Res γ) (l : List α) : mapRes f (l.map g) = mapRes (fun a => f (g a)) l := by
  rw [mapRes_eq_mapM, mapRes_eq_mapM, List.mapM_map]; rfl

theorem mapRes_all_error_ok {f : α → Res β} {l : List α} {r : List β} {e : Err}
    (hf : ∀ a, f a = .error e) (h : mapRes f l = .ok r) : l = [] := by
  cases l with
  | nil => rfl
  | cons a as => simp [mapRes, hf a] at h

theorem zipCells_eq_mapRes (f : Option α → Option β → Res ρ) :
    ∀ (xs : Col α) (ys : Col β), xs.length = ys.length →
      zipCells f xs ys = mapRes id (List.zipWith f xs ys)
  | [], [], _ => rfl
  | x :: xs, y :: ys, h => by
    simp only [zipCells, List.zipWith_cons_cons, mapRes, id, zipCells_eq_mapRes f xs ys (by simpa using h)]
  | [], _ :: _, h => by simp at h
  | _ :: _, [], h => by simp at h

theorem zipCells_congr {f g : Option α → Option β → Res ρ} (h : ∀ x y, f x y = g x y) (xs : Col α) (ys : Col β) :
    zipCells f xs ys = zipCells g xs ys := by
  rw [show f = g from funext fun x => funext (h x)]

theorem zipCells_ok_length {f : Option α → Option β → Res ρ} :
    ∀ {xs : Col α} {ys : Col β} {r : List ρ}, zipCells f xs ys = .ok r → xs.length = ys.length
  | [], [], _, _ => rfl
  | x :: xs, y :: ys, r, h => by
    simp only [zipCells] at h
    split at h
    · cases h
    · split at h
      · cases h
      · rename_i cs hcs
        simp [zipCells_ok_length hcs]
  | [], _ :: _, _, h => by simp [zipCells] at h
  | _ :: _, [], _, h => by simp [zipCells] at h

theorem zipCells_flip (f : Option β → Option α → Res ρ) :
    ∀ (ys : Col β) (xs : Col α), zipCells f ys xs = zipCells (fun x y => f y x) xs ys
  | [], [] => rfl
  | y :: ys, x :: xs => by simp only [zipCells, zipCells_flip f ys xs]
  | [], _ :: _ => rfl
  | _ :: _, [] => rfl

theorem apply_eq_seq (f : Option α → Option β → Res ρ) (xs : Col α) (o : Operand β) :
    apply f xs o = match specCells f xs o with
                   | none => .error .value
                   | some cells => mapRes id cells := by
  cases o with
  | vec ys dt | seq ys =>
    simp only [apply, seqOp, specCells]
    by_cases hl : xs.length = ys.length
    · rw [if_neg (by simpa using hl), if_pos hl, zipCells_eq_mapRes f xs ys hl]
    · rw [if_pos hl, if_neg hl]
  | scalar s => exact (mapRes_map _ id xs).symm

section Apply
variable {f : Option α → Option β → Res ρ} {xs : Col α} {o : Operand β} {r : List ρ}

theorem apply_eq_ok_iff :
    apply f xs o = .ok r ↔ specCells f xs o = some (r.map .ok) := by
  rw [apply_eq_seq]
  cases specCells f xs o with
  | none => simp
  | some cells => simp [mapRes_eq_ok_iff]

theorem specCells_eq_none_iff :
    specCells f xs o = none ↔ ∃ n, o.len? = some n ∧ xs.length ≠ n := by
  cases o <;> simp [specCells, Operand.len?]

theorem specCells_get {cells : List (Res ρ)} (h : specCells f xs o = some cells) :
    cells.length = xs.length ∧
    ∀ {i : Nat} {x : Option α}, xs[i]? = some x → ∃ y, o.get? i = some y ∧ cells[i]? = some (f x y) := by
  cases o with
  | vec ys dt | seq ys =>
    simp only [specCells] at h
    split at h
    · rename_i hl
      cases h
      refine ⟨by rw [List.length_zipWith, ← hl, Nat.min_self], fun {i x} hx => ?_⟩
      have hi : i < ys.length := hl ▸ (List.getElem?_eq_some_iff.mp hx).1
      exact ⟨ys[i], List.getElem?_eq_getElem hi, by rw [List.getElem?_zipWith, hx, List.getElem?_eq_getElem hi]⟩
    · cases h
  | scalar s =>
    cases h
    exact ⟨by simp, fun {i x} hx => ⟨some s, rfl, by simp [hx]⟩⟩

theorem apply_ok_length (h : apply f xs o = .ok r) : r.length = xs.length := by
  simpa using (specCells_get (apply_eq_ok_iff.mp h)).1

theorem apply_ok_getElem? (h : apply f xs o = .ok r) {i : Nat} {x : Option α} (hx : xs[i]? = some x) :
    ∃ y c, o.get? i = some y ∧ r[i]? = some c ∧ f x y = .ok c := by
  obtain ⟨y, hy, hc⟩ := (specCells_get (apply_eq_ok_iff.mp h)).2 hx
  rw [List.getElem?_map] at hc
  cases hr : r[i]? with
  | none => simp [hr] at hc
  | some c => exact ⟨y, c, hy, rfl, by simpa [hr] using hc.symm⟩

/-- position `i` of the result holds `v0` whenever the per-pair function gives `v0` there (used with the constant answers
    `none` / `false` of `cell` / `cmpCell` at None) -/
theorem apply_ok_const (h : apply f xs o = .ok r) {i : Nat} {x : Option α} {y : Option β} {v0 : ρ}
    (hx : xs[i]? = some x) (hy : o.get? i = some y) (hf : f x y = .ok v0) : r[i]? = some v0 := by
  obtain ⟨y', c, hy', hr, hc⟩ := apply_ok_getElem? h hx
  rw [hy] at hy'; cases hy'
  rw [hf] at hc; cases hc
  exact hr

theorem apply_mismatch {n : Nat} (hn : o.len? = some n) (h : xs.length ≠ n) : apply f xs o = .error .value := by
  rw [apply_eq_seq, specCells_eq_none_iff.mpr ⟨n, hn, h⟩]

theorem apply_total (hlen : ∀ n, o.len? = some n → xs.length = n)
    (hdef : ∀ (i : Nat) (x : Option α) (y : Option β), xs[i]? = some x → o.get? i = some y → ∃ c, f x y = .ok c) :
    ∃ r, apply f xs o = .ok r := by
  rw [apply_eq_seq]
  cases hs : specCells f xs o with
  | none =>
    obtain ⟨n, hn, hne⟩ := specCells_eq_none_iff.mp hs
    exact absurd (hlen n hn) hne
  | some cells =>
    obtain ⟨hl, hget⟩ := specCells_get hs
    refine mapRes_total fun c hc => ?_
    obtain ⟨i, hi, rfl⟩ := List.getElem_of_mem hc
    obtain ⟨y, hy, hcy⟩ := hget (List.getElem?_eq_getElem (hl ▸ hi))
    rw [List.getElem?_eq_getElem hi, Option.some.injEq] at hcy
    exact hcy ▸ hdef i _ y (List.getElem?_eq_getElem (hl ▸ hi)) hy

theorem seqOp_ok_length {ys : Col β} (h : seqOp f xs ys = .ok r) : xs.length = ys.length ∧ r.length = xs.length := by
  refine ⟨?_, apply_ok_length (o := .seq ys) h⟩
  unfold seqOp at h
  split at h
  · cases h
  · exact zipCells_ok_length h

theorem seqOp_ok_get {ys : Col β} (h : seqOp f xs ys = .ok r) {i : Nat} {x : Option α} (hx : xs[i]? = some x) :
    ∃ y c, ys[i]? = some y ∧ f x y = .ok c ∧ r[i]? = some c :=
  let ⟨y, c, hy, hr, hc⟩ := apply_ok_getElem? (o := .seq ys) h hx
  ⟨y, c, hy, hc, hr⟩

theorem seqOp_mismatch {ys : Col β} (h : xs.length ≠ ys.length) : seqOp f xs ys = .error .value :=
  if_pos h

end Apply

theorem cell_none_of {op : α → β → Res γ} {x : Option α} {y : Option β} (hn : x = none ∨ y = none) :
    cell op x y = .ok none := by
  rcases hn with rfl | rfl
  · cases y <;> rfl
  · cases x <;> rfl

theorem cell_rev (op : β → α → Res γ) (x : Option α) (y : Option β) :
    cell (rev op) x y = cell op y x := by
  cases x <;> cases y <;> rfl

theorem cell_ok_iff {op : α → β → Res γ} {l : Option α} {r : Option β} {c : Option γ} :
    cell op l r = .ok c ↔ IsCellOf op l r c := by
  cases l with
  | none => cases r <;> simp [cell, IsCellOf, eq_comm]
  | some a =>
    cases r with
    | none => simp [cell, IsCellOf, eq_comm]
    | some b =>
      simp only [cell, IsCellOf]
      cases hop : op a b with
      | ok v => simp [eq_comm]
      | error e => simp

theorem isCellOf_none_left {op : α → β → Res γ} {r : Option β} {c : Option γ}
    (h : IsCellOf op none r c) : c = none := by
  cases r <;> exact h

theorem isCellOf_none_right {op : α → β → Res γ} {l : Option α} {c : Option γ}
    (h : IsCellOf op l none c) : c = none := by
  cases l <;> exact h

theorem cell1_some_ok_iff {f : α → Res β} {a : α} {c : Option β} :
    cell1 f (some a) = .ok c ↔ ∃ b, f a = .ok b ∧ c = some b := by
  simp only [cell1]
  cases f a <;> simp [eq_comm]

theorem cmpCell_none_of {op : α → β → Res Bool} {x : Option α} {y : Option β}
    (hn : x = none ∨ y = none) : cmpCell op x y = .ok false := by
  rcases hn with rfl | rfl
  · cases y <;> rfl
  · cases x <;> rfl

theorem toBoolVec_ok {r : Res (List Bool)} {b : BoolVec} (h : toBoolVec r = .ok b) :
    ∃ l, r = .ok l ∧ b = { data := l, dtype := boolDType } := by
  cases r with
  | ok l =>
    simp only [toBoolVec] at h
    cases h
    exact ⟨l, rfl, rfl⟩
  | error e => simp [toBoolVec] at h

theorem relementwise_eq_apply (op : β → α → Res γ) (xs : Col α) (o : Operand β) :
    relementwise op xs o = apply (fun x y => cell op y x) xs o := by
  have : cell (rev op) = fun x y => cell op y x := by funext x y; exact cell_rev op x y
  unfold relementwise elementwise; rw [this]

theorem radd_eq_apply (add : β → α → Res γ) (xs : Col α) (o : Operand β) :
    radd add xs o = apply (fun x y => cell add y x) xs o := by
  cases o with
  | vec ys dt | seq ys => simp only [radd, apply, seqOp, zipCells_flip (cell add) ys xs]
  | scalar s => rfl

theorem rmul_eq_apply (mul : β → α → Res γ) (xs : Col α) (o : Operand β) :
    rmul mul xs o = apply (fun x y => cell mul y x) xs o :=
  relementwise_eq_apply mul xs o

theorem binary_refl_eq_apply (py : BinOp → α → α → Res α) (o : BinOp) (xs : Col α) (other : Operand α) :
    binary py o true xs other = apply (fun x y => cell (py o) y x) xs other := by
  cases o with
  | add => exact radd_eq_apply _ _ _
  | _ => exact relementwise_eq_apply _ _ _

theorem binary_direct_eq_apply (py : BinOp → α → α → Res α) (o : BinOp) (xs : Col α)
    (other : Operand α) : binary py o false xs other = apply (cell (py o)) xs other := rfl

theorem binary_eq_apply (py : BinOp → α → α → Res α) (o : BinOp) (refl : Bool)
    (xs : Col α)
    (other : Operand α) :
    binary py o refl xs other =
      apply (fun x y => if refl then cell (py o) y x else cell (py o) x y) xs other := by
  cases refl with
  | true => simpa using binary_refl_eq_apply py o xs other
  | false => rfl

/-- `_Date.__add__` is the ordinary elementwise loop with "add days" or Python's `+` as scalar operation -/
theorem dateAdd_eq_elementwise (S : Sem α) (xs : Col α) (o : Operand α) :
    dateAdd S xs o = elementwise (if usesDays S o then S.days else S.py .add) xs o := by
  cases o with
  | vec ys dt =>
    by_cases hk : kindIs dt .int = true
    · simp [dateAdd, usesDays, hk, elementwise, apply, seqOp]
    · simp [dateAdd, usesDays, hk]
  | seq ys => simp [dateAdd, usesDays]
  | scalar s =>
    by_cases hs : S.isInt s = true
    · simp [dateAdd, usesDays, hs, elementwise, apply]
    · simp [dateAdd, usesDays, hs]

/-- `scalarOpOf` names the scalar operation of the branch taken -/
theorem vectorBinary_eq_apply (S : Sem α) (o : BinOp) (refl : Bool) (v : Vec α) (other : Operand α) :
    vectorBinary S o refl v other =
      apply (fun x y => if refl then cell (scalarOpOf S o refl v other) y x
                        else cell (scalarOpOf S o refl v other) x y) v.data other := by
  unfold vectorBinary scalarOpOf
  by_cases hd : (!refl && decide (o = .add) && v.isDate) = true
  · simp only [hd, if_true]
    simp only [Bool.and_eq_true, Bool.not_eq_true', decide_eq_true_eq] at hd
    obtain ⟨⟨hr, ho⟩, hv⟩ := hd
    subst hr; subst ho
    rw [dateAdd_eq_elementwise S v.data other]
    by_cases hu : usesDays S other = true
    · simp [hu, elementwise]
    · simp [hu, elementwise]
  · simp only [hd, Bool.false_and]
    rw [binary_eq_apply S.py o refl]
    simp

theorem cell_written_ok_iff {op : α → α → Res α} {refl : Bool} {x y c : Option α} :
    (if refl then cell op y x else cell op x y) = .ok c ↔
      (if refl then IsCellOf op y x c else IsCellOf op x y c) := by
  cases refl <;> exact cell_ok_iff

/-- `_Date._elementwise_compare` is `compare` with `iso` (ISO string parsed / date at midnight) for `op` where `usesIso` — the
    operator `Drive/C06.lean` judges date comparisons with -/
theorem dateCompare_eq_compare (isStr isDt : β → Bool) (op iso : α → β → Res Bool) (xs : Col α) (o : Operand β) :
    dateCompare isStr isDt op iso xs o
      = compare (if usesIso (fun s => isStr s || isDt s) o then iso else op) xs o := by
  cases o with
  | vec ys dt =>
    by_cases hl : xs.length = ys.length
    · cases hs : kindIs dt .str <;> cases hd : kindIs dt .datetime <;>
        simp [dateCompare, usesIso, compare, apply, seqOp, hl, hs, hd]
    · simp [dateCompare, compare, apply, seqOp, hl, toBoolVec]
  | seq ys => rfl
  | scalar s =>
    cases hs : isStr s <;> cases hd : isDt s <;> simp [dateCompare, usesIso, compare, apply, scalarOp, hs, hd]

/-- when Python defines every position, exactly one observation is acceptable -/
theorem conformsCells_total [DecidableEq ρ] (vals : List ρ) (impl : Option (List ρ)) :
    conformsCells (vals.map Except.ok) impl = true ↔ impl = some vals := by
  cases impl with
  | none => simp [conformsCells, isError]
  | some data =>
    simp only [conformsCells, Bool.and_eq_true, beq_iff_eq, List.length_map, Option.some.injEq]
    induction vals generalizing data with
    | nil => cases data <;> simp
    | cons v vs ih =>
      cases data with
      | nil => simp
      | cons d ds =>
        -- `← ih` turns the tail equation `ds = vs` (from `List.cons.injEq`) back into the judge's two conjuncts for the tails, so
        -- that both sides are the same three conjuncts in another order
        simp only [List.map_cons, List.zip_cons_cons, List.all_cons, List.length_cons, Nat.add_right_cancel_iff,
          Bool.and_eq_true, decide_eq_true_eq, List.cons.injEq, ← ih]
        constructor
        · rintro ⟨h1, rfl, h2⟩
          exact ⟨rfl, h1, h2⟩
        · rintro ⟨rfl, h1, h2⟩
          exact ⟨h1, rfl, h2⟩

/-- the model run is always an acceptable observation -/
theorem conformsCells_seq [DecidableEq ρ] (cells : List (Res ρ)) :
    conformsCells cells (outcome (mapRes id cells)) = true := by
  cases h : mapRes id cells with
  | ok r =>
    -- every cell is defined: the cells are `r.map .ok`, and `some r` is the one acceptable observation
    rw [mapRes_eq_ok_iff, List.map_id] at h
    rw [h]
    exact (conformsCells_total r _).mpr rfl
  | error e =>
    -- some cell is that error, and the judge accepts raising whenever a cell raises
    obtain ⟨c, hc, he⟩ := mapRes_error h
    simp only [outcome, conformsCells, List.any_eq_true]
    exact ⟨c, hc, by rw [show c = .error e from he]; rfl⟩

/-- the model's run of the three operand branches is an acceptable observation of their requirements (a length mismatch must
    raise, and does) -/
theorem conforms_apply [DecidableEq ρ] (f : Option α → Option β → Res ρ) (xs : Col α) (o : Operand β) :
    conforms (specCells f xs o) (outcome (apply f xs o)) = true := by
  rw [apply_eq_seq]
  cases specCells f xs o with
  | none => rfl
  | some cells => exact conformsCells_seq cells

theorem conformsTable_mapRes [DecidableEq ρ] (g : α → Res (List ρ)) (spec : α → Option (List (Res ρ)))
    (l : List α) (h : ∀ a ∈ l, conforms (spec a) (outcome (g a)) = true) :
    conformsTable (some (l.map spec)) (outcome (mapRes g l)) = true := by
  cases hm : mapRes g l with
  | error e =>
    -- the column that raised is one whose requirement accepts raising
    obtain ⟨a, ha, he⟩ := mapRes_error hm
    have hc := h a ha
    rw [he] at hc
    simp only [outcome, conformsTable, List.any_map, List.any_eq_true]
    refine ⟨a, ha, ?_⟩
    rw [Function.comp_apply]
    cases hs : spec a with
    | none => rfl
    | some cells => rw [hs] at hc; exact hc
  | ok out =>
    rw [mapRes_eq_ok_iff] at hm
    simp only [outcome, conformsTable, Bool.and_eq_true, beq_iff_eq, List.length_map]
    induction l generalizing out with
    | nil => cases out <;> simp_all
    | cons a as ih =>
      cases out with
      | nil => cases hm
      | cons b bs =>
        simp only [List.map_cons, List.cons.injEq] at hm
        have ha := h a List.mem_cons_self
        rw [hm.1] at ha
        have := ih (fun x hx => h x (List.mem_cons_of_mem _ hx)) bs hm.2
        simp only [List.map_cons, List.zip_cons_cons, List.all_cons, Bool.and_eq_true, List.length_cons,
          Nat.add_right_cancel_iff]
        exact ⟨this.1, ha, this.2⟩

theorem nonNone_cons_none (xs : Col α) : nonNone (none :: xs) = nonNone xs := rfl

theorem nonNone_cons_some (a : α) (xs : Col α) : nonNone (some a :: xs) = a :: nonNone xs := rfl

theorem map_some_nonNone (xs : Col α) : (nonNone xs).map some = xs.filter Option.isSome := by
  induction xs with
  | nil => rfl
  | cons x xs ih => cases x <;> simp [nonNone_cons_none, nonNone_cons_some, ih]

theorem nonNone_length_le (xs : Col α) : (nonNone xs).length ≤ xs.length := by
  unfold nonNone; exact List.length_filterMap_le _ _

theorem mem_nonNone {xs : Col α} {a : α} : a ∈ nonNone xs ↔ some a ∈ xs := by
  simp [nonNone]

theorem nonNone_map_some (l : List α) : nonNone (l.map some) = l := by
  induction l with
  | nil => rfl
  | cons a as ih => rw [List.map_cons, nonNone_cons_some, ih]

theorem fillWith_length (c : α → α) (x : Option α) (xs : Col α) : (fillWith c x xs).length = xs.length := by
  simp [fillWith]

theorem fillWith_get_none (c : α → α) (x : Option α) {xs : Col α} {i : Nat}
    (h : xs[i]? = some none) : (fillWith c x xs)[i]? = some x := by
  simp [fillWith, h]

theorem fillWith_get_some (c : α → α) (x : Option α) {xs : Col α} {i : Nat} {a : α}
    (h : xs[i]? = some (some a)) : (fillWith c x xs)[i]? = some (some (c a)) := by
  simp [fillWith, h]

theorem isSome_of_mem_fillWith (c : α → α) (a : α) (xs : Col α) : ∀ e ∈ fillWith c (some a) xs, e.isSome = true := by
  intro e he
  simp only [fillWith, List.mem_map] at he
  obtain ⟨x, _, rfl⟩ := he
  cases x <;> rfl

theorem fillWith_no_none (c : α → α) (a : α) (xs : Col α) : none ∉ fillWith c (some a) xs := by
  intro h
  cases isSome_of_mem_fillWith c a xs none h

theorem fillna_ok_cases {kindOf : α → Kind} {conv : Kind → α → α} {v r : Vec α} {x : Option α}
    (h : fillna kindOf conv v x = .ok r) :
    r = fillStandard v x ∨
    ∃ a, x = some a ∧
      r = { data := fillWith (conv (kindOf a)) (some a) v.data, dtype := some { kind := kindOf a, nullable := false } } := by
  unfold fillna at h
  split at h
  · -- typed vector, non-None value
    split at h
    · -- not `object`, and the value does not validate: promotion
      split at h
      · -- `promoteVec` refuses
        cases h
      · cases h
        exact .inr ⟨_, rfl, rfl⟩
    · cases h
      exact .inl rfl
  · -- untyped vector or None value
    cases h
    exact .inl rfl

theorem fillna_ok {kindOf : α → Kind} {conv : Kind → α → α} {v r : Vec α} {x : Option α}
    (h : fillna kindOf conv v x = .ok r) :
    ∃ c : α → α, (c = id ∨ ∃ a, x = some a ∧ c = conv (kindOf a)) ∧ r.data = fillWith c x v.data := by
  rcases fillna_ok_cases h with rfl | ⟨a, rfl, rfl⟩
  · exact ⟨id, .inl rfl, rfl⟩
  · exact ⟨conv (kindOf a), .inr ⟨a, rfl, rfl⟩, rfl⟩

theorem any_isNone_fillWith (c : α → α) (a : α) (xs : Col α) :
    (fillWith c (some a) xs).any Option.isNone = false := by
  rw [List.any_eq_false]
  intro e he hn
  cases e with
  | none => exact fillWith_no_none c a xs he
  | some _ => cases hn

theorem fillna_some_nonnullable {kindOf : α → Kind} {conv : Kind → α → α} {v r : Vec α} {a : α}
    (h : fillna kindOf conv v (some a) = .ok r) :
    reportsNullable r.dtype = false ∧ none ∉ r.data := by
  rcases fillna_ok_cases h with rfl | ⟨a', ha, rfl⟩
  · refine ⟨?_, fillWith_no_none id a v.data⟩
    cases hd : v.dtype <;> simp [fillStandard, withNullable, hd, reportsNullable, any_isNone_fillWith]
  · cases ha
    exact ⟨rfl, fillWith_no_none _ a v.data⟩

end Serif.Vec
