/-
  The partition loop in closed form (`partition_eq`, from two observations of its state: keys and buckets), after which every per-group
  computation of `aggregate` and `window` is a `map` over `dedup keys`; the built-ins against the textbook functions; `uniquify`'s loop
  (`uniqLoop_spec_of_bound`); the closed forms `aggregate_eq` / `window_eq` of the whole functions.
-/
import Serif.Model.Group
import Serif.Proofs.Dict
import Serif.Proofs.Util

namespace Serif.Group
variable {κ : Type} [DecidableEq κ]

theorem mem_dedup (l : List κ) (x : κ) : x ∈ dedup l ↔ x ∈ l := by
  induction l with
  | nil => simp [dedup]
  | cons k ks ih =>
    simp only [dedup, List.mem_cons, List.mem_filter, decide_eq_true_eq, ih]
    by_cases h : x = k <;> simp [h]

theorem dedup_nodup (l : List κ) : (dedup l).Nodup := by
  induction l with
  | nil => simp [dedup]
  | cons k ks ih =>
    simp only [dedup, List.nodup_cons, List.mem_filter, decide_eq_true_eq]
    exact ⟨fun h => h.2 rfl, ih.filter _⟩

theorem dedup_sublist (l : List κ) : (dedup l).Sublist l := by
  induction l with
  | nil => simp [dedup]
  | cons k ks ih =>
    simp only [dedup]
    exact List.Sublist.cons_cons _ (List.Sublist.trans List.filter_sublist ih)

theorem dedup_sorted_by_first_index (l : List κ) :
    (dedup l).Pairwise (fun a b => l.idxOf a < l.idxOf b) := by
  induction l with
  | nil => simp [dedup]
  | cons k ks ih =>
    -- behind the head, every remaining key sits one place further than in the tail
    have shift : ∀ {x}, x ∈ (dedup ks).filter (fun x => decide (x ≠ k)) →
        (k :: ks).idxOf x = ks.idxOf x + 1 := by
      intro x hx
      have hne : x ≠ k := of_decide_eq_true (List.mem_filter.mp hx).2
      have hbeq : (k == x) = false := beq_false_of_ne fun e => hne e.symm
      rw [List.idxOf_cons, hbeq]
      rfl
    rw [dedup, List.pairwise_cons]
    constructor
    · intro b hb
      simp [shift hb]
    · refine (ih.filter _).imp_of_mem fun ha hb hab => ?_
      rw [shift ha, shift hb]
      exact Nat.succ_lt_succ hab

/-- the primed key `k'` is the inserted one (in `Dict.bucket_upsert_snoc` it is the unprimed `k`) -/
theorem bucket_addRow (d : Dict κ (List Nat)) (k' k : κ) (i : Nat) :
    Dict.bucket (addRow d k' i) k = if k' = k then Dict.bucket d k' ++ [i] else Dict.bucket d k :=
  Dict.bucket_upsert_snoc d k' k _ i (by unfold Dict.bucket; cases Dict.get? d k' <;> rfl)

theorem rowsOf_cons (x : κ) (xs : List κ) (k : κ) :
    rowsOf (x :: xs) k = (if x = k then [0] else []) ++ (rowsOf xs k).map (· + 1) := by
  simp only [rowsOf, List.length_cons, List.range_succ_eq_map, List.filter_cons, List.filter_map,
    List.getElem?_cons_zero, Option.some.injEq, decide_eq_true_eq]
  split <;> rfl

/-- loop invariant of the partition loop, buckets -/
theorem bucket_partitionFrom (ks : List κ) (i : Nat) (d : Dict κ (List Nat)) (k : κ) :
    Dict.bucket (partitionFrom ks i d) k = Dict.bucket d k ++ (rowsOf ks k).map (· + i) := by
  induction ks generalizing i d with
  | nil => simp [partitionFrom, rowsOf]
  | cons x xs ih =>
    rw [partitionFrom, ih, bucket_addRow, rowsOf_cons]
    split
    · next h => subst h; simp [Nat.add_comm, Nat.add_left_comm]
    · simp [Nat.add_comm, Nat.add_left_comm]

theorem keys_addRow (d : Dict κ (List Nat)) (k : κ) (i : Nat) :
    Dict.keys (addRow d k i) = if k ∈ Dict.keys d then Dict.keys d else Dict.keys d ++ [k] :=
  Dict.keys_upsert d k _

/-- loop invariant, keys — the one place where the head-recursive `dedup` (which filters its tail) meets the left-to-right loop -/
theorem keys_partitionFrom (ks : List κ) (i : Nat) (d : Dict κ (List Nat)) :
    Dict.keys (partitionFrom ks i d) =
      Dict.keys d ++ (dedup ks).filter (fun x => decide (x ∉ Dict.keys d)) := by
  induction ks generalizing i d with
  | nil => simp [partitionFrom, dedup]
  | cons k ks ih =>
    rw [partitionFrom, dedup, ih, keys_addRow, List.filter_cons, List.filter_filter]
    by_cases h : k ∈ Dict.keys d
    · rw [if_pos h, if_neg (by simpa using h)]
      congr 1
      exact List.filter_congr fun x _ => by by_cases hx : x = k <;> simp [hx, h]
    · rw [if_neg h, if_pos (by simpa using h), List.append_assoc, List.singleton_append]
      congr 2
      exact List.filter_congr fun x _ => by by_cases hx : x = k <;> simp [hx, h]

theorem partition_eq (keys : List κ) :
    partition keys = (dedup keys).map (fun k => (k, rowsOf keys k)) := by
  have hk : Dict.keys (partition keys) = dedup keys := by
    unfold partition
    rw [keys_partitionFrom]
    simp [Dict.keys]
  have hn : (Dict.keys (partition keys)).Nodup := hk ▸ dedup_nodup keys
  -- a dictionary with distinct keys is determined by its keys and what `get?` finds under them
  rw [Dict.eq_map_keys (partition keys) [] hn, hk]
  apply List.map_congr_left
  intro k _
  have := bucket_partitionFrom keys 0 [] k
  simpa [Dict.bucket, Dict.get?, partition] using this

theorem mem_rowsOf (keys : List κ) (k : κ) (i : Nat) : i ∈ rowsOf keys k ↔ keys[i]? = some k := by
  simp only [rowsOf, List.mem_filter, List.mem_range, decide_eq_true_eq, and_iff_right_iff_imp]
  exact fun h => (List.getElem?_eq_some_iff.mp h).1

theorem rowsOf_ascending (keys : List κ) (k : κ) : (rowsOf keys k).Pairwise (· < ·) :=
  List.Pairwise.sublist List.filter_sublist List.pairwise_lt_range

theorem rowsOf_ne_nil (keys : List κ) (k : κ) (h : k ∈ keys) : rowsOf keys k ≠ [] := by
  obtain ⟨i, hi, e⟩ := List.getElem_of_mem h
  exact List.ne_nil_of_mem ((mem_rowsOf keys k i).mpr (by rw [List.getElem?_eq_getElem hi, e]))

theorem gather_out_of_range {α : Type} (data : List α) (rows : List Nat)
    (h : ∀ j ∈ rows, data.length ≤ j) : gather data rows = [] := by
  induction rows with
  | nil => rfl
  | cons r rs ih =>
    have h0 := h r List.mem_cons_self
    have : data[r]? = none := List.getElem?_eq_none h0
    simp only [gather, List.filterMap_cons, this]
    exact ih (fun j hj => h j (List.mem_cons_of_mem _ hj))

theorem gather_nil {α : Type} (rows : List Nat) : gather ([] : List α) rows = [] :=
  gather_out_of_range [] rows fun _ _ => Nat.zero_le _

theorem groupVals_nil_left {α : Type} (data : List α) (k : κ) : groupVals ([] : List κ) data k = [] := by
  cases data <;> rfl

theorem groupVals_nil_right {α : Type} (ks : List κ) (k : κ) : groupVals ks ([] : List α) k = [] := by
  cases ks <;> rfl

theorem gather_cons_succ {α : Type} (v : α) (vs : List α) (rows : List Nat) :
    gather (v :: vs) (rows.map (· + 1)) = gather vs rows := by
  simp [gather, List.filterMap_map, Function.comp_def]

theorem gather_rowsOf {α : Type} (keys : List κ) (data : List α) (k : κ) :
    gather data (rowsOf keys k) = groupVals keys data k := by
  induction keys generalizing data with
  | nil =>
    rw [groupVals_nil_left]
    rfl
  | cons x xs ih =>
    cases data with
    | nil => rw [gather_nil, groupVals_nil_right]
    | cons v vs =>
      rw [rowsOf_cons, gather, List.filterMap_append, ← gather, ← gather, gather_cons_succ, ih, groupVals]
      split <;> simp [gather]

/-- `aggregate_col` with any function = textbook group-by -/
theorem aggCol_partition {α β : Type} (data : List α) (keys : List κ) (f : List α → β) :
    aggCol data (partition keys) f = aggSpec data keys f := by
  simp only [aggCol, aggSpec, partition_eq, List.map_map, Function.comp_def, gather_rowsOf]

theorem callLog_partition {α : Type} (data : List α) (keys : List κ) :
    callLog data (partition keys) = (dedup keys).map (fun k => groupVals keys data k) := by
  simp only [callLog, partition_eq, List.map_map, Function.comp_def, gather_rowsOf]

theorem dedup_replicate (n : Nat) (k : κ) : dedup (List.replicate (n + 1) k) = [k] := by
  induction n with
  | zero => simp [dedup]
  | succ n ih =>
    rw [List.replicate_succ, dedup, ih]
    simp

theorem groupVals_replicate {α : Type} (vals : List α) (k : κ) :
    groupVals (List.replicate vals.length k) vals k = vals := by
  induction vals with
  | nil => rfl
  | cons v vs ih => simp [List.replicate_succ, groupVals, ih]

theorem aggCol_single_group {α β : Type} (vals : List α) (k : κ) (f : List α → β) (h : vals ≠ []) :
    aggCol vals (partition (List.replicate vals.length k)) f = [f vals] := by
  rw [aggCol_partition, aggSpec]
  cases vals with
  | nil => exact absurd rfl h
  | cons v vs =>
    rw [List.length_cons, dedup_replicate]
    simp only [List.map_cons, List.map_nil]
    rw [← List.length_cons (a := v), groupVals_replicate]

theorem computeGroupValues_partition {α β : Type} (data : List α) (keys : List κ) (f : List α → β) :
    computeGroupValues data (partition keys) f =
      (dedup keys).map (fun k => (k, f (groupVals keys data k))) := by
  rw [computeGroupValues, partition_eq, Dict.foldl_upsert_fresh]
  · simp only [List.nil_append, List.map_map, Function.comp_def, gather_rowsOf]
  · simpa only [List.map_map, Function.comp_def, List.map_id'] using dedup_nodup keys
  · exact fun _ _ => List.not_mem_nil

theorem expandToRows_map {ν : Type} (l : List κ) (G : κ → ν) (ks : List κ) (h : ∀ k ∈ ks, k ∈ l) :
    expandToRows (l.map (fun k => (k, G k))) ks = .ok (ks.map G) := by
  induction ks with
  | nil => rfl
  | cons k ks ih =>
    simp only [expandToRows]
    rw [Dict.get?_map_pair, if_pos (h k List.mem_cons_self), ih (fun k' hk' => h k' (List.mem_cons_of_mem _ hk'))]
    rfl

theorem windowCol_eq {α β : Type} (data : List α) (keys : List κ) (f : List α → β) :
    windowCol data keys f = .ok (keys.map (fun k => f (groupVals keys data k))) := by
  unfold windowCol
  rw [computeGroupValues_partition]
  exact expandToRows_map (dedup keys) (fun k => f (groupVals keys data k)) keys
    (fun k hk => (mem_dedup keys k).mpr hk)

theorem expand_groupIndex {ν : Type} (keys ks : List κ) (G : κ → ν) (h : ∀ k ∈ ks, k ∈ keys) :
    (ks.map (groupIndex keys)).filterMap (((dedup keys).map G)[·]?) = ks.map G := by
  rw [List.filterMap_map]
  refine (List.filterMap_congr fun k hk => ?_).trans (congrFun List.filterMap_eq_map ks)
  exact List.getElem?_map_idxOf (dedup keys) G k ((mem_dedup keys k).mpr (h k hk))

theorem isum_eq_sum (c : List Int) : isum c = c.sum := List.sum_eq_foldl.symm

/-- `sumF vals` is `isum (clean vals)` by definition -/
theorem sumF_eq (vals : List (Option Int)) : sumF vals = (clean vals).sum := isum_eq_sum _

theorem countF_eq (vals : List (Option Int)) : countF vals = (clean vals).length := by
  have count : ∀ (c : List Int) (a : Int), c.foldl (fun a _ => a + 1) a = a + c.length := by
    intro c
    induction c with
    | nil => simp
    | cons x xs ih =>
      intro a
      rw [List.foldl_cons, ih, List.length_cons]
      omega
  rw [countF, count, Int.zero_add]

/-- Python's first-minimum scan is a fold of `min` -/
theorem pyMin_eq (c : List Int) : pyMin c = c.min? := by
  cases c with
  | nil => rfl
  | cons x xs =>
    have : (fun m v : Int => if v < m then v else m) = min := by
      funext m v
      split <;> omega
    rw [pyMin, this]; rfl

theorem pyMax_eq (c : List Int) : pyMax c = c.max? := by
  cases c with
  | nil => rfl
  | cons x xs =>
    have : (fun m v : Int => if v > m then v else m) = max := by
      funext m v
      split <;> omega
    rw [pyMax, this]; rfl

theorem meanF_eq (vals : List (Option Int)) : meanF vals = tbMean (clean vals) := by
  simp only [meanF, tbMean, isum_eq_sum, List.isEmpty_iff]

theorem varF_eq (vals : List (Option Int)) : varF vals = tbVar (clean vals) := by
  -- `sum(g(v) for v in c)` as the model accumulates it
  have acc : ∀ g : Int → Rat,
      (clean vals).foldl (fun (a : Rat) (v : Int) => a + g v) 0 = ((clean vals).map g).sum := by
    intro g
    rw [List.sum_eq_foldl, List.foldl_map]
  simp only [varF, tbVar, isum_eq_sum, acc, Nat.lt_succ_iff]

theorem builtin_eq_textbook (fn : Fn) (vals : List (Option Int)) :
    builtin fn vals = textbook fn (clean vals) := by
  cases fn <;>
    simp only [builtin, textbook, sumF_eq, meanF_eq, minF, maxF, pyMin_eq, pyMax_eq, tbMin, tbMax, countF_eq, varF_eq]

theorem tbMin_spec (c : List Int) (m : Int) : tbMin c = some m ↔ m ∈ c ∧ ∀ v ∈ c, m ≤ v := by
  unfold tbMin
  exact List.min?_eq_some_iff

theorem tbMax_spec (c : List Int) (m : Int) : tbMax c = some m ↔ m ∈ c ∧ ∀ v ∈ c, v ≤ m := by
  unfold tbMax
  exact List.max?_eq_some_iff

/-- `h` is needed for `min` and `max` only (`min()` of no values raises where the group function returns None) -/
theorem vecReduce_eq (fn : Fn) (vals : List (Option Int)) (h : clean vals ≠ []) :
    vecReduce fn vals = some (builtin fn vals) := by
  cases fn
  case min | max =>
    simp only [vecReduce, builtin, minF, maxF]
    cases hc : clean vals with
    | nil => exact absurd hc h
    | cons x xs => rfl
  case stdev =>
    -- the model's `vecReduce .stdev` squares with a product and divides by `n - 1 + 0` (`Vector.stdev` with its `population` flag
    -- off); `varF` writes `^ 2` and `n - 1`
    simp only [vecReduce, builtin, varF, Lean.Grind.Semiring.pow_two, Rat.add_zero, Nat.lt_succ_iff]
  all_goals rfl

theorem sum_sq_dev (c : List Int) (m : Rat) :
    (c.map (fun (v : Int) => ((v : Rat) - m) ^ 2)).sum =
      (c.map (fun (v : Int) => (v : Rat) ^ 2)).sum - 2 * m * (c.map (fun (v : Int) => (v : Rat))).sum
        + (c.length : Rat) * m ^ 2 := by
  induction c with
  | nil => simp; grobner
  | cons x xs ih =>
    simp only [List.map_cons, List.sum_cons, List.length_cons]
    rw [ih]
    have : ((xs.length + 1 : Nat) : Rat) = (xs.length : Rat) + 1 := by simp
    rw [this]
    grobner

theorem sum_cast (c : List Int) : (c.map (fun (v : Int) => (v : Rat))).sum = ((c.sum : Int) : Rat) := by
  induction c with
  | nil => simp
  | cons x xs ih =>
    simp only [List.map_cons, List.sum_cons]
    rw [ih]
    simp [Rat.intCast_add]

theorem uniqLoop_congr (sfx : Nat → String) (name : String) (u1 u2 : List String) (fuel i : Nat)
    (h : ∀ j, i ≤ j → (u1.contains (name ++ sfx j) = u2.contains (name ++ sfx j))) :
    uniqLoop sfx name u1 fuel i = uniqLoop sfx name u2 fuel i := by
  induction fuel generalizing i with
  | zero => rfl
  | succ fuel ih =>
    simp only [uniqLoop]
    rw [h i (Nat.le_refl _), ih (i + 1) (fun j hj => h j (by omega))]

/-- The loop stops at the smallest free suffix `≥ i`, within its fuel, once the fuel exceeds the length of some list `S` holding every
    candidate `name ++ sfx j`, `j ≥ i`, that is in use: an iteration that does not stop strikes its candidate off `S`. -/
theorem uniqLoop_spec_of_bound (sfx : Nat → String) (name : String)
    (hinj : ∀ i j, name ++ sfx i = name ++ sfx j → i = j) (used : List String)
    (fuel i : Nat) (S : List String) (hS : ∀ j, i ≤ j → name ++ sfx j ∈ used → name ++ sfx j ∈ S)
    (hf : S.length < fuel) :
    ∃ j, i ≤ j ∧ j < i + fuel ∧ uniqLoop sfx name used fuel i = name ++ sfx j ∧ name ++ sfx j ∉ used ∧
      ∀ j', i ≤ j' → j' < j → name ++ sfx j' ∈ used := by
  induction fuel generalizing i S with
  | zero => exact absurd hf (Nat.not_lt_zero _)
  | succ fuel ih =>
    simp only [uniqLoop, List.contains_eq_mem, decide_eq_true_eq]
    split
    next hc =>
      have hSi : name ++ sfx i ∈ S := hS i (Nat.le_refl i) hc
      -- strike candidate `i` off `S`: the later candidates differ from it (`hinj`) and stay
      have hS' : ∀ j, i + 1 ≤ j → name ++ sfx j ∈ used → name ++ sfx j ∈ S.erase (name ++ sfx i) := by
        intro j hj hm
        have hne : name ++ sfx j ≠ name ++ sfx i := fun e => Nat.ne_of_gt hj (hinj _ _ e)
        exact (List.mem_erase_of_ne hne).mpr (hS j (Nat.le_of_succ_le hj) hm)
      have hlen : (S.erase (name ++ sfx i)).length < fuel := by
        rw [List.length_erase_of_mem hSi]
        exact Nat.sub_one_lt_of_le (List.length_pos_of_mem hSi) (Nat.le_of_lt_succ hf)
      obtain ⟨j, hij, hlt, heq, hnot, hmin⟩ := ih (i + 1) (S.erase (name ++ sfx i)) hS' hlen
      have hlt' : j < i + (fuel + 1) := Nat.add_right_comm i 1 fuel ▸ hlt
      refine ⟨j, Nat.le_of_succ_le hij, hlt', heq, hnot, fun j' h1 h2 => ?_⟩
      by_cases e : j' = i
      · exact e ▸ hc
      · exact hmin j' (Nat.lt_of_le_of_ne h1 (Ne.symm e)) h2
    next hc =>
      refine ⟨i, Nat.le_refl _, Nat.lt_add_of_pos_right fuel.succ_pos, rfl, hc, fun j' h1 h2 => ?_⟩
      exact absurd h1 (Nat.not_le.mpr h2)

theorem uniqLoop_spec (sfx : Nat → String) (name : String)
    (hinj : ∀ i j, name ++ sfx i = name ++ sfx j → i = j)
    (fuel : Nat) (used : List String) (i : Nat) (hf : used.length < fuel) :
    ∃ j, i ≤ j ∧ uniqLoop sfx name used fuel i = name ++ sfx j ∧ name ++ sfx j ∉ used ∧
      ∀ j', i ≤ j' → j' < j → name ++ sfx j' ∈ used :=
  let ⟨j, hij, _, h⟩ := uniqLoop_spec_of_bound sfx name hinj used fuel i used (fun _ _ h => h) hf
  ⟨j, hij, h⟩

theorem uniqLoop_fuel (sfx : Nat → String) (name : String) (hinj : ∀ i j, name ++ sfx i = name ++ sfx j → i = j)
    (used : List String) (f1 f2 i : Nat) (h1 : used.length < f1) (h2 : used.length < f2) :
    uniqLoop sfx name used f1 i = uniqLoop sfx name used f2 i := by
  obtain ⟨j1, i1, e1, n1, m1⟩ := uniqLoop_spec sfx name hinj f1 used i h1
  obtain ⟨j2, i2, e2, n2, m2⟩ := uniqLoop_spec sfx name hinj f2 used i h2
  -- both stop at the smallest free suffix
  have h12 : j1 ≤ j2 := Nat.not_lt.mp fun h => n2 (m1 j2 i2 h)
  have h21 : j2 ≤ j1 := Nat.not_lt.mp fun h => n1 (m2 j1 i1 h)
  rw [e1, e2, Nat.le_antisymm h12 h21]

theorem uniquify_fresh (sfx : Nat → String) (hinj : ∀ name i j, name ++ sfx i = name ++ sfx j → i = j)
    (used : List String) (name : String) :
    (uniquify sfx used name).1 ∉ used ∧ (uniquify sfx used name).2 = (uniquify sfx used name).1 :: used := by
  unfold uniquify
  split
  · obtain ⟨j, _, heq, hnot, _⟩ := uniqLoop_spec sfx name (hinj name) (used.length + 1) used 2 (Nat.lt_succ_self _)
    exact ⟨heq ▸ hnot, rfl⟩
  · next h => exact ⟨by simpa using h, rfl⟩

theorem uniquifyAll_length (sfx : Nat → String) (names used : List String) :
    (uniquifyAll sfx names used).length = names.length := by
  induction names generalizing used with
  | nil => rfl
  | cons n ns ih => simp [uniquifyAll, ih]

theorem uniquifyAll_fresh_nodup (sfx : Nat → String) (hinj : ∀ name i j, name ++ sfx i = name ++ sfx j → i = j)
    (names used : List String) :
    (uniquifyAll sfx names used).Nodup ∧ ∀ x ∈ uniquifyAll sfx names used, x ∉ used := by
  induction names generalizing used with
  | nil => simp [uniquifyAll]
  | cons n ns ih =>
    obtain ⟨hfresh, hused⟩ := uniquify_fresh sfx hinj used n
    obtain ⟨hnd, hnot⟩ := ih (uniquify sfx used n).2
    replace hnot : ∀ x ∈ uniquifyAll sfx ns (uniquify sfx used n).2, x ∉ (uniquify sfx used n).1 :: used :=
      fun x hx => hused ▸ hnot x hx
    simp only [uniquifyAll, List.nodup_cons, List.mem_cons]
    refine ⟨⟨fun hm => hnot _ hm List.mem_cons_self, hnd⟩, ?_⟩
    rintro x (rfl | hx)
    · exact hfresh
    · exact fun hm => hnot x hx (List.mem_cons_of_mem _ hm)

theorem uniquifyAll_of_nodup (sfx : Nat → String) (names used : List String) (hn : names.Nodup)
    (hu : ∀ n ∈ names, n ∉ used) : uniquifyAll sfx names used = names := by
  induction names generalizing used with
  | nil => rfl
  | cons n ns ih =>
    have h0 : ¬ used.contains n = true := by simpa using hu n List.mem_cons_self
    simp only [List.nodup_cons] at hn
    simp only [uniquifyAll, uniquify, h0, Bool.false_eq_true, if_false, List.cons.injEq, true_and]
    apply ih _ hn.2
    intro m hm
    simp only [List.mem_cons, not_or]
    exact ⟨fun e => hn.1 (e ▸ hm), hu m (List.mem_cons_of_mem _ hm)⟩

theorem toString_suffix_injective (name : String) (i j : Nat) (h : name ++ toString i = name ++ toString j) : i = j :=
  Nat.toString_injective ((String.append_right_inj name).mp h)

theorem rowKeys_length {κc : Type} (over : List (List κc)) (n : Nat) : (rowKeys over n).length = n := by
  simp [rowKeys]

theorem rowKeys_row_length {κc : Type} (over : List (List κc)) (n : Nat) (h : ∀ c ∈ over, c.length = n) :
    ∀ k ∈ rowKeys over n, k.length = over.length := by
  intro k hk
  obtain ⟨i, hi, rfl⟩ := List.mem_map.mp hk
  exact List.filterMap_length_eq_length.mpr fun c hc => by simpa [h c hc] using hi

theorem keyLensOk_iff {κc ρ α β : Type} (a : Args κc ρ α β) :
    keyLensOk a = true ↔ ∀ c ∈ a.over, c.cells.length = a.nrows := by
  simp only [keyLensOk, List.all_eq_true, beq_iff_eq]

theorem keysOf_row_length {κc ρ α β : Type} (a : Args κc ρ α β) (h : keyLensOk a = true) :
    ∀ k ∈ keysOf a, k.length = a.over.length := by
  rw [keyLensOk_iff] at h
  intro k hk
  have hcols : ∀ c ∈ a.over.map KeyCol.cells, c.length = a.nrows := by
    intro c hc
    obtain ⟨kc, hkc, rfl⟩ := List.mem_map.mp hc
    exact h kc hkc
  have hlen := rowKeys_row_length (a.over.map KeyCol.cells) a.nrows hcols k hk
  rwa [List.length_map] at hlen

theorem keysOf_length {κc ρ α β : Type} (a : Args κc ρ α β) : (keysOf a).length = a.nrows := by
  simp [keysOf, rowKeys_length]

theorem keysOf_getElem? {κc ρ α β : Type} (a : Args κc ρ α β) (i : Nat) (hi : i < a.nrows) :
    (keysOf a)[i]? = some ((a.over.map (fun c => c.cells)).filterMap (·[i]?)) := by
  simp [keysOf, rowKeys, hi]

section whole
variable {κc ρ α β : Type}

theorem sequence_ok {γ : Type} (l : List γ) : sequence (l.map (fun x => (Except.ok x : Res γ))) = .ok l := by
  induction l with
  | nil => rfl
  | cons x xs ih => simp [sequence, ih]

theorem zipNames_cells (names : List String) (cells : List (OutCells κc ρ β)) (h : cells.length ≤ names.length) :
    (zipNames names cells).map (·.cells) = cells := by
  rw [zipNames, List.map_zipWith, ← List.map_uncurry_zip_eq_zipWith]
  exact List.map_snd_zip h

theorem zipNames_names (names : List String) (cells : List (OutCells κc ρ β)) (h : names.length ≤ cells.length) :
    (zipNames names cells).map (·.name) = names := by
  rw [zipNames, List.map_zipWith, ← List.map_uncurry_zip_eq_zipWith]
  exact List.map_fst_zip h

/-- both closed forms end in `if … then .ok (zipNames names cells) else .error .value` -/
theorem ok_zipNames {c : Prop} [Decidable c] {names : List String} {cells : List (OutCells κc ρ β)}
    {cols : List (OutCol κc ρ β)} (hl : cells.length = names.length)
    (h : (if c then Except.ok (zipNames names cells) else .error .value : Res _) = .ok cols) :
    cols.map (·.cells) = cells ∧ cols.map (·.name) = names := by
  split at h <;> cases h
  exact ⟨zipNames_cells _ _ (Nat.le_of_eq hl), zipNames_names _ _ (Nat.le_of_eq hl.symm)⟩

/-- both results are some key columns followed by one column per built-in plan and per `apply` entry, each a `map` over one row list `R` -/
theorem length_of_mem_cells (a : Args κc ρ α β) {N : Nat} (kc : List (OutCells κc ρ β)) (R : List (List κc))
    (F : Fn × ValCol → List κc → Option Rat) (G : ApplyArg α β → List κc → β)
    (hkc : ∀ c ∈ kc, c.length = N) (hR : R.length = N) :
    ∀ c ∈ kc ++ (builtinPlans a).map (fun p => OutCells.nums p.1 (R.map (F p))) ++
        a.apply.map (fun p => OutCells.apps (R.map (G p))), c.length = N := by
  intro c hc
  simp only [List.mem_append, List.mem_map] at hc
  rcases hc with (hc | ⟨p, _, rfl⟩) | ⟨p, _, rfl⟩
  · exact hkc c hc
  · simpa [OutCells.length] using hR
  · simpa [OutCells.length] using hR

variable [DecidableEq κc] (sfx : Nat → String) (a : Args κc ρ α β)

theorem aggregateCells_eq_spec : aggregateCells a = aggregateCellsSpec a := by
  unfold aggregateCells aggregateCellsSpec
  simp only [aggCol_partition, aggSpec, builtin_eq_textbook]
  congr 2
  apply List.map_congr_left
  intro idx _
  rw [partition_eq, List.filterMap_map]
  rfl

theorem windowCells_eq_spec : windowCells a = .ok (windowCellsSpec a) := by
  unfold windowCells windowCellsSpec
  simp only [windowCol_eq, Except.map, builtin_eq_textbook]
  rw [← sequence_ok]
  simp [List.map_append, List.map_map, Function.comp_def]

theorem aggregateCells_length : (aggregateCells a).length = (rawNames a).length := by
  simp [aggregateCells, rawNames]

theorem aggregateCellsSpec_length : (aggregateCellsSpec a).length = (rawNames a).length :=
  aggregateCells_eq_spec a ▸ aggregateCells_length a

theorem windowCellsSpec_length : (windowCellsSpec a).length = (rawNames a).length := by
  simp [windowCellsSpec, rawNames]

theorem aggregate_eq :
    aggregate sfx a = if keyLensOk a = true ∧ aggLensOk a = true
      then .ok (zipNames (uniquifyAll sfx (rawNames a) []) (aggregateCellsSpec a)) else .error .value := by
  rw [aggregate, aggregateCells_eq_spec]
  cases keyLensOk a <;> cases aggLensOk a <;> rfl

/-- `expand_to_rows` never raises: the only errors of `window` are the length checks it shares with `aggregate` -/
theorem window_eq :
    window sfx a = if keyLensOk a = true ∧ aggLensOk a = true
      then .ok (zipNames (uniquifyAll sfx (rawNames a) []) (windowCellsSpec a)) else .error .value := by
  rw [window, windowCells_eq_spec]
  cases keyLensOk a <;> cases aggLensOk a <;> rfl

theorem aggregate_ok (cols : List (OutCol κc ρ β)) (h : aggregate sfx a = .ok cols) :
    cols.map (·.cells) = aggregateCellsSpec a ∧ cols.map (·.name) = uniquifyAll sfx (rawNames a) [] :=
  ok_zipNames (by rw [uniquifyAll_length, aggregateCellsSpec_length]) (aggregate_eq sfx a ▸ h)

theorem window_ok (cols : List (OutCol κc ρ β)) (h : window sfx a = .ok cols) :
    cols.map (·.cells) = windowCellsSpec a ∧ cols.map (·.name) = uniquifyAll sfx (rawNames a) [] :=
  ok_zipNames (by rw [uniquifyAll_length, windowCellsSpec_length]) (window_eq sfx a ▸ h)

theorem windowCellsSpec_drop :
    (windowCellsSpec a).drop a.over.length =
      ((aggregateCellsSpec a).drop a.over.length).map (OutCells.expand ((keysOf a).map (groupIndex (keysOf a)))) := by
  simp only [windowCellsSpec, aggregateCellsSpec, List.append_assoc]
  rw [List.drop_left' (by simp), List.drop_left' (by simp)]
  have back : ∀ {ν : Type} (G : List κc → ν),
      ((keysOf a).map (groupIndex (keysOf a))).filterMap (((dedup (keysOf a)).map G)[·]?) = (keysOf a).map G :=
    fun G => expand_groupIndex (keysOf a) (keysOf a) G (fun _ h => h)
  simp only [List.map_append, List.map_map, Function.comp_def, OutCells.expand, back]

end whole

end Serif.Group
