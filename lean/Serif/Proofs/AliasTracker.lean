/-
  The tracker class by itself (C15, unit level): `register` / `unregister` / `check_writable` of Model/AliasHeap.lean — the
  functions `alias_tracker.py` is modelled by and the driver's `tracker` family runs against the real class — driven directly
  and compared with a specification that keeps only the set of registered (object, identity) pairs; the claim is
  `C15.tracker_refines_spec`.
-/
import Serif.Proofs.AliasHeap

namespace Serif
namespace AState

/-- direct calls on the tracker, plus birth and death of objects -/
inductive TOp where
  | new
  | kill (o : Nat)
  | reg (o s : Nat)
  | unreg (o s : Nat)
  | check (s : Nat)
  deriving Repr

/-- the tracker side; the flag is "AliasError raised".  A new object gets storage 0: the tracker asks of an object only whether it is alive. -/
def tstep (st : AState) : TOp → AState × Bool
  | .new => (({ st with next := st.next + 1 }).setStore st.next (some 0), false)
  | .kill o => (st.setStore o none, false)
  | .reg o s => (st.register o s, false)
  | .unreg o s => (st.unregister o s, false)
  | .check s => ((st.checkWritable s).1, !(st.checkWritable s).2)

/-- the specification side: the registered pairs -/
def sstep (pairs : List (Nat × Nat)) : TOp → List (Nat × Nat)
  | .reg o s => if pairs.contains (o, s) then pairs else pairs ++ [(o, s)]
  | .unreg o s => pairs.filter (· != (o, s))
  | _ => pairs

/-- the library only ever passes live objects (`self`) to `register` / `unregister` -/
def TValid (st : AState) : TOp → Prop
  | .reg o _ => st.alive o = true
  | .unreg o _ => st.alive o = true
  | _ => True

def SpecShared (st : AState) (pairs : List (Nat × Nat)) (s : Nat) : Prop :=
  ∃ o1 o2, o1 ≠ o2 ∧ st.alive o1 = true ∧ st.alive o2 = true ∧ (o1, s) ∈ pairs ∧ (o2, s) ∈ pairs

theorem mem_sstep_reg {pairs : List (Nat × Nat)} {o s : Nat} {p : Nat × Nat} :
    p ∈ sstep pairs (.reg o s) ↔ p ∈ pairs ∨ p = (o, s) := by
  simp only [sstep]
  split
  · next h =>
    -- already registered: the second disjunct is contained in the first
    refine ⟨.inl, fun hp => ?_⟩
    rcases hp with hp | rfl
    · exact hp
    · simpa using h
  · simp

theorem mem_sstep_unreg {pairs : List (Nat × Nat)} {o s : Nat} {p : Nat × Nat} :
    p ∈ sstep pairs (.unreg o s) ↔ p ∈ pairs ∧ p ≠ (o, s) := by
  simp [sstep]

structure TInv (st : AState) (pairs : List (Nat × Nat)) : Prop where
  mem : ∀ s o, o ∈ st.liveRefs s ↔ st.alive o = true ∧ (o, s) ∈ pairs
  nodup : ∀ s, (st.liveRefs s).Nodup
  fresh : Fresh st
  pairs_lt : ∀ o s, (o, s) ∈ pairs → o < st.next

theorem tinv_init : TInv init [] := by
  constructor <;> simp [init, alive, liveRefs, Fresh]

theorem check_spec (st : AState) (pairs : List (Nat × Nat)) (inv : TInv st pairs) (s : Nat) :
    (st.tstep (.check s)).2 = true ↔ SpecShared st pairs s := by
  simp only [tstep, Bool.not_eq_true', checkWritable_refuses_iff st s (inv.nodup s), inv.mem, SpecShared]
  exact ⟨fun ⟨a, b, hne, ⟨la, pa⟩, lb, pb⟩ => ⟨a, b, hne, la, lb, pa, pb⟩,
    fun ⟨a, b, hne, la, lb, pa, pb⟩ => ⟨a, b, hne, ⟨la, pa⟩, lb, pb⟩⟩

theorem tinv_step (st : AState) (pairs : List (Nat × Nat)) (op : TOp) (inv : TInv st pairs) (v : TValid st op) :
    TInv (st.tstep op).1 (sstep pairs op) := by
  cases op with
  | new =>
    simp only [tstep, sstep]
    have lr : ∀ s, liveRefs _ s = st.liveRefs s :=
      liveRefs_setStore_of_not_mem { st with next := st.next + 1 } st.next (some 0) (inv.fresh _ (Nat.le_refl _)).2
    refine ⟨fun s o => ?_, fun s => (lr s).symm ▸ inv.nodup s, inv.fresh.born _,
      fun o s h => Nat.lt_succ_of_lt (inv.pairs_lt o s h)⟩
    rw [lr, alive_setStore, inv.mem]
    split
    · next e =>
      -- the new object `st.next` is alive but in no pair: `pairs_lt`
      constructor
      · exact fun h => ⟨rfl, h.2⟩
      · exact fun h => absurd (e ▸ inv.pairs_lt o s h.2) (Nat.lt_irrefl _)
    · rfl
  | kill k =>
    simp only [tstep, sstep]
    refine ⟨fun s o => ?_, fun s => ?_, inv.fresh.setStore (.inl rfl), inv.pairs_lt⟩
    · rw [liveRefs_setStore_none, List.mem_filter, inv.mem, alive_setStore]
      by_cases e : o = k <;> simp [e]
    · rw [liveRefs_setStore_none]
      exact (inv.nodup s).filter _
  | reg o s =>
    have v : st.alive o = true := v
    simp only [tstep]
    refine ⟨fun s' x => ?_, fun s' => nodup_liveRefs_register v (inv.nodup s'),
      inv.fresh.register s (inv.fresh.lt_of_alive v), fun x s' h => ?_⟩
    · -- both sides gain the one pair `(o, s)`, and `o` is alive
      rw [mem_liveRefs_register v, register_alive, mem_sstep_reg, inv.mem, Prod.mk.injEq]
      constructor
      · rintro (h | ⟨e1, e2⟩)
        · exact ⟨h.1, .inl h.2⟩
        · exact ⟨e2 ▸ v, .inr ⟨e2, e1⟩⟩
      · rintro ⟨ha, h | ⟨e1, e2⟩⟩
        · exact .inl ⟨ha, h⟩
        · exact .inr ⟨e2, e1⟩
    · rw [register_next]
      rcases mem_sstep_reg.mp h with h | e
      · exact inv.pairs_lt x s' h
      · exact (Prod.mk.inj e).1 ▸ inv.fresh.lt_of_alive v
  | unreg o s =>
    simp only [tstep]
    refine ⟨fun s' x => ?_, fun s' => nodup_liveRefs_unregister (inv.nodup s'), inv.fresh.unregister o s, fun x s' h => ?_⟩
    · rw [mem_liveRefs_unregister, unregister_alive, mem_sstep_unreg, inv.mem, Ne, Prod.mk.injEq, and_assoc,
        and_comm (a := s' = s)]
    · rw [unregister_next]
      exact inv.pairs_lt x s' (mem_sstep_unreg.mp h).1
  | check s =>
    simp only [tstep, sstep]
    refine ⟨fun s' x => ?_, fun s' => ?_, inv.fresh.checkWritable s, fun x s' h => ?_⟩
    · rw [liveRefs_checkWritable, checkWritable_alive]
      exact inv.mem s' x
    · rw [liveRefs_checkWritable]; exact inv.nodup s'
    · rw [checkWritable_next]; exact inv.pairs_lt x s' h

/-- run tracker and specification side by side -/
def trun : AState × List (Nat × Nat) → List TOp → AState × List (Nat × Nat)
  | p, [] => p
  | p, op :: ops => trun ((p.1.tstep op).1, sstep p.2 op) ops

/-- `TValid` along a call sequence, each call judged in the state it runs in -/
def TValidRun : AState → List TOp → Prop
  | _, [] => True
  | st, op :: ops => TValid st op ∧ TValidRun (st.tstep op).1 ops

theorem trun_inv (ops : List TOp) (st : AState) (pairs : List (Nat × Nat)) (inv : TInv st pairs)
    (v : TValidRun st ops) : TInv (trun (st, pairs) ops).1 (trun (st, pairs) ops).2 := by
  induction ops generalizing st pairs with
  | nil => exact inv
  | cons op ops ih => exact ih _ _ (tinv_step st pairs op inv v.1) v.2

end AState
end Serif
