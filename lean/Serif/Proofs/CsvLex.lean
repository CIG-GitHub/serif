/-
  The csv lexer model (Serif/Model/CsvLex.lean) on texts whose lines end at `'\n'` only: the model's `stream` and `splitLF` are the
  policy `lf` of Serif/Proofs/CsvLexU.lean, so the line-driven and the character-driven machine agree (`lines_splitLF`).
  `feedNL` and the `feedNL_*` theorems are the `lf` instances of `feedP_*`.
-/
import Serif.Proofs.CsvLexU

namespace Serif.CsvLex

/-- characters fed with EOL after every `'\n'` only (the middle of a text) -/
def feedNL (d : Char) : St → List Char → Except Err St
  | s, [] => .ok s
  | s, c :: cs =>
    match step d s (some c) with
    | .error e => .error e
    | .ok s' =>
      if c == '\n' then
        match eol d s' with
        | .error e => .error e
        | .ok s'' => feedNL d s'' cs
      else feedNL d s' cs

theorem splitLF_eq_splitP : splitLF = splitP lf := by
  funext t
  induction t with
  | nil => rfl
  | cons c cs ih => simp only [splitP, splitLF, lf, ih]; rfl

theorem stream_eq_streamP (d : Char) (t : List Char) : ∀ s : St, stream d s t = streamP d lf s t := by
  induction t with
  | nil => intro s; rfl
  | cons c cs ih =>
    intro s
    simp only [stream, streamP, lf, ih]
    rfl

theorem feedNL_eq_feedP (d : Char) (t : List Char) : ∀ s : St, feedNL d s t = feedP d lf s t := by
  induction t with
  | nil => intro s; rfl
  | cons c cs ih =>
    intro s
    simp only [feedNL, feedP, lf, ih]
    rfl

theorem lines_splitLF (d : Char) (t : List Char) (s : St) : lines d s (splitLF t) = stream d s t := by
  rw [splitLF_eq_splitP, lines_splitP, stream_eq_streamP]

/-- `lf` does not look ahead, so a text can be fed in two pieces -/
theorem feedNL_append (d : Char) (a b : List Char) : ∀ (s s' : St), feedNL d s a = .ok s' →
    feedNL d s (a ++ b) = feedNL d s' b := by
  induction a with
  | nil =>
    intro s s' h
    simp only [feedNL, Except.ok.injEq] at h
    subst h
    rfl
  | cons c cs ih =>
    intro s s' h
    simp only [List.cons_append, feedNL] at h ⊢
    cases hst : step d s (some c) with
    | error e => rw [hst] at h; cases h
    | ok s1 =>
      rw [hst] at h
      simp only at h ⊢
      split
      · rename_i hc
        simp only [hc, ↓reduceIte] at h
        cases he : eol d s1 with
        | error e => rw [he] at h; cases h
        | ok s2 => rw [he] at h; exact ih s2 s' h
      · rename_i hc
        simp only [hc, Bool.false_eq_true, ↓reduceIte] at h
        exact ih s1 s' h

theorem feedNL_escape (d : Char) (f : List Char) : ∀ s : St, s.mode = .inQuoted →
    feedNL d s (escape f) = .ok { s with field := f.reverse ++ s.field } := by
  intro s hm
  simpa [feedNL_eq_feedP, feedP_nil] using feedP_escape (d := d) lf_policy f s [] hm

theorem feedNL_plain (d : Char) (f : List Char) : ∀ s : St, s.mode = .inField → plain d f = true →
    feedNL d s f = .ok { s with field := f.reverse ++ s.field } := by
  intro s hm hp
  simpa [feedNL_eq_feedP, feedP_nil] using feedP_plain lf_policy f s [] hm hp

theorem feedNL_fields (d : Char) (g : GoodDelim d) (crlf : Bool) : ∀ (r : List (Bool × List Char)) (s : St), r ≠ [] → Start s →
    (∀ qf ∈ r, qf.1 = true ∨ plain d qf.2 = true) → (s.mode = .startRecord → r ≠ [(false, [])]) →
    feedNL d s (renderFields d r ++ term crlf) =
      .ok { mode := .startRecord, field := [], fields := [], out := (s.fields.reverse ++ r.map (·.2)) :: s.out } := by
  intro r s hne hs hq hex
  simpa [feedNL_eq_feedP, feedP_nil] using feedP_fields lf_policy g crlf r s [] hne hs hq hex

theorem feedNL_text (d : Char) (g : GoodDelim d) (crlf : Bool) : ∀ (rs : List (List (Bool × List Char)))
    (out : List (List (List Char))), (∀ r ∈ rs, wellQuoted d r = true) →
    feedNL d { out := out } (renderText d crlf rs) = .ok { out := (rs.map (·.map (·.2))).reverse ++ out } := by
  intro rs out hw
  rw [feedNL_eq_feedP]
  exact feedP_text lf_policy g crlf rs out hw

end Serif.CsvLex
