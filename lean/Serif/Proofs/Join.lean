/-
  Lemmas under C09–C11.  Both loops are brought to closed form (`bucketOf_build`, `probe_eq`), the three specifications to the one
  shape `probeRows … ++ rightOnly …` (`specPairs_eq`), which gives `joinCore_eq`; everything about order and duplicates is proved
  once, for `probeRows` (`probeRows_lex`).  The `expect` tuples read from the source are compared with the specification in
  `expect_table`.
-/
import Serif.Model.Join
import Serif.Proofs.Dict
import Serif.Proofs.Util

namespace Serif
open Serif.Join

namespace Join
variable {K : Type}

theorem eq_of_ite_error_eq_ok {α : Type} {c : Prop} [Decidable c] {er : Err} {a b : α}
    (h : (if c then Except.error er else .ok a) = .ok b) : b = a := by
  split at h
  · cases h
  · cases h; rfl

/-- membership in the specification rows of a full join, as a symmetric three-way description -/
def RowOf (lk rk : List K) (p : Pair) : Prop :=
  (∃ k i j, lk[i]? = some k ∧ rk[j]? = some k ∧ p = (some i, some j))
  ∨ (∃ k i, lk[i]? = some k ∧ k ∉ rk ∧ p = (some i, none))
  ∨ (∃ k j, rk[j]? = some k ∧ k ∉ lk ∧ p = (none, some j))

theorem RowOf.swap {lk rk : List K} {p : Pair} (h : RowOf lk rk p) : RowOf rk lk (swapPair p) := by
  rcases h with ⟨k, i, j, h1, h2, rfl⟩ | ⟨k, i, h1, h2, rfl⟩ | ⟨k, j, h1, h2, rfl⟩
  · exact Or.inl ⟨k, j, i, h2, h1, rfl⟩
  · exact Or.inr (Or.inr ⟨k, i, h1, h2, rfl⟩)
  · exact Or.inr (Or.inl ⟨k, j, h1, h2, rfl⟩)

theorem swapPair_injective : ∀ a b : Pair, swapPair a = swapPair b → a = b := by
  rintro ⟨a1, a2⟩ ⟨b1, b2⟩ h
  simp [swapPair] at h
  simp [h.1, h.2]

theorem mem_map_swapPair (l : List Pair) (p : Pair) : p ∈ l.map swapPair ↔ swapPair p ∈ l := by
  rw [List.mem_map]
  constructor
  · rintro ⟨q, hq, rfl⟩; exact hq
  · intro h; exact ⟨swapPair p, h, rfl⟩

section keys
variable [DecidableEq K]

theorem buildStep_fst (chk : Bool) (st : Index K × List K) (k : K) (row : Nat) :
    (buildStep chk st k row).1 = Dict.upsert st.1 k (fun _ => bucketOf st.1 k ++ [row]) := by
  unfold buildStep bucketOf
  cases Dict.get? st.1 k <;> rfl

theorem bucketOf_buildStep (chk : Bool) (st : Index K × List K) (k k' : K) (row : Nat) :
    bucketOf (buildStep chk st k row).1 k' = if k = k' then bucketOf st.1 k ++ [row] else bucketOf st.1 k' := by
  rw [buildStep_fst]
  exact Dict.bucket_upsert_snoc st.1 k k' _ row rfl  -- `bucketOf` is `Dict.bucket` by definition

theorem matchIdx_cons (a : K) (l : List K) (s : Nat) (k : K) :
    matchIdx (a :: l) s k = (if k = a then [s] else []) ++ matchIdx l (s + 1) k := by
  unfold matchIdx
  simp only [List.zipIdx_cons, List.filterMap_cons]
  split <;> simp_all

theorem bucketOf_buildFrom (chk : Bool) (ks : List K) (s : Nat) (st : Index K × List K) (k : K) :
    bucketOf (buildFrom chk ks s st).1 k = bucketOf st.1 k ++ matchIdx ks s k := by
  induction ks generalizing s st with
  | nil => simp [buildFrom, matchIdx]
  | cons a l ih =>
    simp only [buildFrom, ih, bucketOf_buildStep, matchIdx_cons]
    by_cases h : a = k
    · subst h; simp
    · have : ¬ k = a := fun e => h e.symm
      simp [h, this]

theorem bucketOf_build (chk : Bool) (rk : List K) (k : K) :
    bucketOf (build chk rk).1 k = matchIdx rk 0 k := by
  have := bucketOf_buildFrom chk rk 0 (([], []) : Index K × List K) k
  simpa [build, bucketOf, Dict.get?] using this

theorem mem_matchIdx (rk : List K) (k : K) (j : Nat) : j ∈ matchIdx rk 0 k ↔ rk[j]? = some k := by
  simp only [matchIdx, List.mem_filterMap, Prod.exists, List.mk_mem_zipIdx_iff_getElem?,
    Option.ite_none_right_eq_some, Option.some.injEq]
  constructor
  · rintro ⟨a, i, h, rfl, rfl⟩; exact h
  · intro h; exact ⟨k, j, h, rfl, rfl⟩

theorem matchIdx_eq_nil (rk : List K) (k : K) : matchIdx rk 0 k = [] ↔ k ∉ rk := by
  rw [List.eq_nil_iff_forall_not_mem, List.mem_iff_getElem?]
  simp only [mem_matchIdx, not_exists]

theorem matchIdx_sorted (rk : List K) (s : Nat) (k : K) : (matchIdx rk s k).Pairwise (· < ·) := by
  unfold matchIdx
  rw [List.pairwise_filterMap]
  refine (List.zipIdx_snd_lt rk s).imp ?_
  intro p q hlt b hb c hc
  simp only [Option.ite_none_right_eq_some, Option.some.injEq] at hb hc
  rw [← hb.2, ← hc.2]; exact hlt

theorem get?_buildStep_eq_none (chk : Bool) (st : Index K × List K) (k k' : K) (row : Nat) :
    Dict.get? (buildStep chk st k row).1 k' = none ↔ k ≠ k' ∧ Dict.get? st.1 k' = none := by
  rw [buildStep_fst, Dict.get?_upsert]
  split <;> simp [*]

theorem dups_buildStep (chk : Bool) (st : Index K × List K) (k : K) (row : Nat) :
    (buildStep chk st k row).2 = [] ↔ st.2 = [] ∧ (chk = true → Dict.get? st.1 k = none) := by
  unfold buildStep
  cases Dict.get? st.1 k <;> cases chk <;> simp
  -- left: the key has a bucket and the check is on, `(if st.2.contains k then st.2 else st.2 ++ [k]) ≠ []`
  split
  · rename_i hm; exact List.ne_nil_of_mem hm
  · simp

theorem dups_buildFrom (chk : Bool) (ks : List K) (s : Nat) (st : Index K × List K) :
    (buildFrom chk ks s st).2 = [] ↔
      st.2 = [] ∧ (chk = true → ks.Nodup ∧ ∀ k ∈ ks, Dict.get? st.1 k = none) := by
  induction ks generalizing s st with
  | nil => simp [buildFrom]
  | cons a l ih =>
    simp only [buildFrom, ih, dups_buildStep, get?_buildStep_eq_none, List.nodup_cons, List.mem_cons, forall_eq_or_imp]
    constructor
    · rintro ⟨⟨h1, h2⟩, h3⟩
      refine ⟨h1, fun hc => ?_⟩
      obtain ⟨h4, h5⟩ := h3 hc
      exact ⟨⟨fun hm => (h5 a hm).1 rfl, h4⟩, h2 hc, fun k hk => (h5 k hk).2⟩
    · rintro ⟨h1, h2⟩
      refine ⟨⟨h1, fun hc => (h2 hc).2.1⟩, fun hc => ?_⟩
      obtain ⟨⟨h3, h4⟩, _, h5⟩ := h2 hc
      exact ⟨h4, fun k hk => ⟨fun e => h3 (e ▸ hk), h5 k hk⟩⟩

theorem dups_build (chk : Bool) (rk : List K) : (build chk rk).2 = [] ↔ (chk = true → rk.Nodup) := by
  simp [build, dups_buildFrom, Dict.get?]

/-- `if check_right_unique and duplicates: raise` -/
theorem build_check (chk : Bool) (rk : List K) :
    (chk && !(build chk rk).2.isEmpty) = (chk && !decide rk.Nodup) := by
  cases chk
  · rfl
  · by_cases h : rk.Nodup <;> simp [List.isEmpty_iff, dups_build, h]

/-- what the probe loop produces when it does not raise: the rows, and `matched_right_rows` -/
def probeOut (outer : Bool) (ix : Index K) (lk : List K) (s : Nat) : List Pair × List Nat :=
  ((lk.zipIdx s).flatMap (fun p => emit outer p.2 (bucketOf ix p.1)), lk.flatMap (bucketOf ix))

theorem probe_nochk (outer : Bool) (ix : Index K) (lk : List K) (s : Nat) (seen : List K) :
    probe outer false ix lk s seen = .ok (probeOut outer ix lk s) := by
  induction lk generalizing s seen with
  | nil => simp [probe, probeOut]
  | cons a l ih => simp [probe, ih, probeOut, List.zipIdx_cons]

/-- with the check on, the loop gets through iff `left_keys_seen` would end without a repeated key (so the
    induction hypothesis applies to `a :: seen` as it stands) -/
theorem probe_chk (outer : Bool) (ix : Index K) (lk : List K) (s : Nat) (seen : List K) (hs : seen.Nodup) :
    probe outer true ix lk s seen =
      if (lk.reverse ++ seen).Nodup then .ok (probeOut outer ix lk s) else .error .value := by
  induction lk generalizing s seen with
  | nil => simp [probe, probeOut, hs]
  | cons a l ih =>
    rw [List.reverse_cons, List.append_assoc, List.singleton_append]
    by_cases ha : a ∈ seen
    · have : ¬ (l.reverse ++ a :: seen).Nodup := fun h => (List.nodup_cons.mp (List.nodup_append.mp h).2.1).1 ha
      simp [probe, ha, this]
    · have hc : (true && seen.contains a) = false := by simp [ha]
      have hs' : (a :: seen).Nodup := List.nodup_cons.mpr ⟨ha, hs⟩
      simp only [probe, hc, Bool.false_eq_true, if_false, if_true, ih (s + 1) (a :: seen) hs']
      by_cases hn : (l.reverse ++ a :: seen).Nodup <;> simp [hn, probeOut, List.zipIdx_cons]

theorem probe_eq (outer chkL : Bool) (ix : Index K) (lk : List K) :
    probe outer chkL ix lk 0 [] =
      if chkL && !decide lk.Nodup then .error .value else .ok (probeOut outer ix lk 0) := by
  cases chkL with
  | false => simp [probe_nochk]
  | true => by_cases hn : lk.Nodup <;> simp [probe_chk, hn, (List.reverse_perm lk).nodup_iff]

/-- the probe loop sees the index only through `right_index.get` -/
theorem probe_congr (outer chkL : Bool) (ix ix' : Index K) (h : ∀ k, bucketOf ix k = bucketOf ix' k)
    (lk : List K) (s : Nat) (seen : List K) :
    probe outer chkL ix lk s seen = probe outer chkL ix' lk s seen := by
  induction lk generalizing s seen with
  | nil => rfl
  | cons a l ih => simp only [probe, ih, h]

/-- the rows the probe loop emits over the index built from `rk`: with `outer` off the inner-join rows, with
    `outer` on the left-join rows; a full join appends `rightOnly` -/
def probeRows (outer : Bool) (lk rk : List K) : List Pair :=
  lk.zipIdx.flatMap (fun p => emit outer p.2 (matchIdx rk 0 p.1))

theorem probeOut_build (outer chk : Bool) (lk rk : List K) :
    probeOut outer (build chk rk).1 lk 0 = (probeRows outer lk rk, lk.flatMap (matchIdx rk 0)) := by
  simp only [probeOut, probeRows, bucketOf_build]
  -- the second component is the η-reduced `lk.flatMap (bucketOf _)`, which `simp only` cannot rewrite
  congr 2
  funext k; exact bucketOf_build chk rk k

theorem emit_inner (i : Nat) (b : List Nat) : emit false i b = b.map (fun j => (some i, some j)) := by
  unfold emit
  cases b <;> simp

theorem mem_emit (outer : Bool) (i : Nat) (b : List Nat) (x : Pair) :
    x ∈ emit outer i b ↔ (∃ j ∈ b, x = (some i, some j)) ∨ (outer = true ∧ b = [] ∧ x = (some i, none)) := by
  unfold emit
  cases b with
  | nil => cases outer <;> simp
  | cons j js => simp [eq_comm]

theorem emit_fst (outer : Bool) (i : Nat) (b : List Nat) (x : Pair) (h : x ∈ emit outer i b) : x.1 = some i := by
  rcases (mem_emit outer i b x).mp h with ⟨_, _, rfl⟩ | ⟨_, _, rfl⟩ <;> rfl

theorem probeRows_inner (lk rk : List K) : probeRows false lk rk = (innerSpec lk rk).map liftPair := by
  simp only [probeRows, innerSpec, emit_inner, matchIdx, List.map_flatMap, List.map_filterMap]
  congr 1
  funext p
  congr 1
  funext q
  split <;> simp [liftPair]

theorem probeRows_left (lk rk : List K) : probeRows true lk rk = leftSpec lk rk := by
  simp [probeRows, leftSpec, emit]

theorem outer_inner : (JKind.inner != JKind.inner) = false := by decide

theorem specPairs_eq (kind : JKind) (lk rk : List K) :
    specPairs kind lk rk =
      if kind = .full then probeRows (kind != .inner) lk rk ++ rightOnly lk rk else probeRows (kind != .inner) lk rk := by
  cases kind
  · exact (probeRows_inner lk rk).symm
  · exact (probeRows_left lk rk).symm
  · exact congrArg (· ++ rightOnly lk rk) (probeRows_left lk rk).symm

theorem mem_flatMap_matchIdx (lk rk : List K) (k' : K) (j : Nat) (h : rk[j]? = some k') :
    j ∈ lk.flatMap (matchIdx rk 0) ↔ k' ∈ lk := by
  simp only [List.mem_flatMap, mem_matchIdx, h, Option.some.injEq]
  constructor
  · rintro ⟨k, hk, rfl⟩; exact hk
  · intro hk; exact ⟨k', hk, rfl⟩

/-- after a probe that matched the right rows `lk.flatMap (matchIdx rk 0)`, the sweep returns the right rows whose key no left row has -/
theorem sweep_eq (lk rk : List K) :
    sweep rk.length (lk.flatMap (matchIdx rk 0)) = rightOnly lk rk := by
  unfold sweep rightOnly
  rw [List.filterMap_ite_none, List.range_eq_range', ← List.zipIdx_map_snd 0 rk, List.filter_map, List.map_map]
  congr 1
  apply List.filter_congr
  intro q hq
  have hq' : rk[q.2]? = some q.1 := List.mk_mem_zipIdx_iff_getElem?.mp hq
  simp only [Function.comp, List.contains_eq_mem, mem_flatMap_matchIdx lk rk q.1 q.2 hq']

theorem joinCore_eq (kind : JKind) (e : String) (lk rk : List K) :
    joinCore kind e lk rk =
      if (chkRight kind e && !decide rk.Nodup) || (chkLeft kind e && !decide lk.Nodup) then .error .value
      else .ok (specPairs kind lk rk) := by
  simp only [joinCore, build_check, probe_eq, probeOut_build, specPairs_eq]
  cases (chkRight kind e && !decide rk.Nodup) <;> cases (chkLeft kind e && !decide lk.Nodup)
  -- both tests pass: the only case in which the sweep is reached
  · simp only [Bool.false_eq_true, if_false, Bool.or_false, sweep_eq]
  all_goals rfl

theorem joinCore_ok (kind : JKind) (e : String) (lk rk : List K) (ps : List Pair)
    (h : joinCore kind e lk rk = .ok ps) : ps = specPairs kind lk rk :=
  eq_of_ite_error_eq_ok (joinCore_eq kind e lk rk ▸ h)

/-- the finite content of the nine tuples read from the source: each method accepts the four documented values and tests
    uniqueness on the side(s) the value names; and it accepts nothing else -/
theorem expect_table :
    (∀ k ∈ [JKind.inner, .left, .full], ∀ x ∈ expectValues,
      acceptsExpect k x = true ∧ chkRight k x = needsRight x ∧ chkLeft k x = needsLeft x) ∧
    (∀ l ∈ [Gen.validExpect_inner, Gen.validExpect_left, Gen.validExpect_full], ∀ x ∈ l, x ∈ expectValues) := by
  decide +kernel

theorem mem_kinds (kind : JKind) : kind ∈ [JKind.inner, .left, .full] := by cases kind <;> simp

theorem acceptsExpect_eq (kind : JKind) (e : String) : acceptsExpect kind e = validExpect e := by
  by_cases hv : e ∈ expectValues
  · simp [(expect_table.1 kind (mem_kinds kind) e hv).1, validExpect, hv]
  · have h := expect_table.2
    simp only [List.mem_cons, List.not_mem_nil, or_false, forall_eq_or_imp, forall_eq] at h
    have hne : validExpect e = false := by simp [validExpect, hv]
    rw [hne]
    cases kind <;> simp only [acceptsExpect, List.contains_eq_mem, decide_eq_false_iff_not]
    · exact fun hm => hv (h.1 e hm)
    · exact fun hm => hv (h.2.1 e hm)
    · exact fun hm => hv (h.2.2 e hm)

theorem chk_eq (kind : JKind) (e : String) (hv : validExpect e = true) :
    chkRight kind e = needsRight e ∧ chkLeft kind e = needsLeft e :=
  (expect_table.1 kind (mem_kinds kind) e (by simpa [validExpect] using hv)).2

theorem joinCore_eq_specCore (kind : JKind) (e : String) (hv : validExpect e = true) (lk rk : List K) :
    joinCore kind e lk rk = specCore kind e lk rk := by
  rw [joinCore_eq, (chk_eq kind e hv).1, (chk_eq kind e hv).2]; rfl

theorem joinPairs_eq_spec (kind : JKind) (e : String) (lk rk : List K) :
    joinPairs kind e lk rk = specJoinPairs kind e lk rk := by
  unfold joinPairs specJoinPairs
  rw [acceptsExpect_eq]
  cases hv : validExpect e
  · rfl
  · simp [joinCore_eq_specCore kind e hv]

theorem run_eq_specRun (kind : JKind) (e : String) (L R : Tab Cell) (lon ron : OnArg) :
    run kind e L R lon ron = specRun kind e L R lon ron := by
  unfold run specRun
  rw [acceptsExpect_eq]
  cases hv : validExpect e
  · rfl
  · simp only [Bool.not_true, Bool.false_eq_true, if_false]
    cases validateKeys L R lon ron with
    | error er => rfl
    | ok kp => simp only [joinCore_eq_specCore kind e hv]

theorem specCore_ok (kind : JKind) (e : String) (lk rk : List K) (ps : List Pair)
    (h : specCore kind e lk rk = .ok ps) : ps = specPairs kind lk rk :=
  eq_of_ite_error_eq_ok h

theorem valid_mm : validExpect "many_to_many" = true := by simp [validExpect, expectValues]

theorem specCore_mm (kind : JKind) (lk rk : List K) :
    specCore kind "many_to_many" lk rk = .ok (specPairs kind lk rk) := by
  simp [specCore, needsLeft, needsRight]

theorem joinPairs_mm (kind : JKind) (lk rk : List K) :
    joinPairs kind "many_to_many" lk rk = .ok (specPairs kind lk rk) := by
  simp only [joinPairs_eq_spec, specJoinPairs, valid_mm, specCore_mm, Bool.not_true, Bool.false_eq_true, if_false]

theorem joinPairs_ok (kind : JKind) (e : String) (lk rk : List K) (ps : List Pair)
    (h : joinPairs kind e lk rk = .ok ps) : ps = specPairs kind lk rk := by
  rw [joinPairs_eq_spec, specJoinPairs] at h
  split at h
  · cases h
  · exact specCore_ok kind e lk rk ps h

theorem joinPairs_valid (kind : JKind) (e : String) (hv : validExpect e = true) (lk rk : List K) :
    joinPairs kind e lk rk =
      if (needsRight e = true ∧ ¬ rk.Nodup) ∨ (needsLeft e = true ∧ ¬ lk.Nodup) then .error .value
      else .ok (specPairs kind lk rk) := by
  simp only [joinPairs_eq_spec, specJoinPairs, specCore, hv, Bool.not_true, Bool.false_eq_true, if_false,
    Bool.or_eq_true, Bool.and_eq_true, Bool.not_eq_true', decide_eq_false_iff_not]

theorem mem_leftSpec (lk rk : List K) (p : Pair) :
    p ∈ leftSpec lk rk ↔
      (∃ k i j, lk[i]? = some k ∧ rk[j]? = some k ∧ p = (some i, some j))
      ∨ (∃ k i, lk[i]? = some k ∧ k ∉ rk ∧ p = (some i, none)) := by
  simp only [← probeRows_left, probeRows, List.mem_flatMap, Prod.exists, List.mk_mem_zipIdx_iff_getElem?, mem_emit,
    mem_matchIdx, matchIdx_eq_nil, true_and, and_or_left, exists_or, exists_and_left]

theorem mem_rightOnly (lk rk : List K) (p : Pair) :
    p ∈ rightOnly lk rk ↔ ∃ k j, rk[j]? = some k ∧ k ∉ lk ∧ p = (none, some j) := by
  simp only [rightOnly, List.mem_filterMap, Prod.exists, List.mk_mem_zipIdx_iff_getElem?, List.contains_eq_mem,
    decide_eq_true_eq, Option.ite_none_left_eq_some, Option.some.injEq, eq_comm (a := p)]

theorem mem_fullSpec (lk rk : List K) (p : Pair) : p ∈ fullSpec lk rk ↔ RowOf lk rk p := by
  simp only [fullSpec, List.mem_append, mem_leftSpec, mem_rightOnly, RowOf, or_assoc]

/-- which side of a row can be padding -/
theorem specPairs_shape (kind : JKind) (lk rk : List K) (p : Pair) (h : p ∈ specPairs kind lk rk) :
    (p.1.isSome = true ∧ (p.2.isSome = true ∨ kind ≠ .inner)) ∨
      (kind = .full ∧ p.1.isSome = false ∧ p.2.isSome = true) := by
  cases kind <;> simp only [specPairs, fullSpec, List.mem_map, List.mem_append, mem_leftSpec, mem_rightOnly] at h
  · obtain ⟨q, _, rfl⟩ := h
    simp [liftPair]
  · rcases h with ⟨_, _, _, _, _, rfl⟩ | ⟨_, _, _, _, rfl⟩ <;> simp
  · rcases h with (⟨_, _, _, _, _, rfl⟩ | ⟨_, _, _, _, rfl⟩) | ⟨_, _, _, _, rfl⟩ <;> simp

/-- the rows of one left row come in bucket order, the rows of different left rows in left order: the list is
    strictly increasing in (left index, right index), None before any index -/
theorem probeRows_lex (outer : Bool) (lk rk : List K) :
    (probeRows outer lk rk).Pairwise (fun a b => a.1 < b.1 ∨ (a.1 = b.1 ∧ a.2 < b.2)) := by
  unfold probeRows
  rw [List.pairwise_flatMap]
  constructor
  · rintro ⟨k, i⟩ _
    unfold emit
    split
    · split <;> simp
    · rw [List.pairwise_map]
      exact (matchIdx_sorted rk 0 k).imp (fun h => Or.inr ⟨rfl, Option.some_lt_some.mpr h⟩)
  · refine (List.zipIdx_snd_lt lk 0).imp ?_
    rintro ⟨k, i⟩ ⟨k', i'⟩ hlt x hx y hy
    rw [emit_fst _ _ _ x hx, emit_fst _ _ _ y hy]
    exact Or.inl (Option.some_lt_some.mpr hlt)

theorem probeRows_nodup (outer : Bool) (lk rk : List K) : (probeRows outer lk rk).Nodup := by
  refine (probeRows_lex outer lk rk).imp ?_
  rintro ⟨_ | i, _ | j⟩ _ h rfl <;> simp at h

theorem rightOnly_nodup (lk rk : List K) : (rightOnly lk rk).Nodup := by
  unfold rightOnly
  rw [List.nodup_iff_pairwise_ne, List.pairwise_filterMap]
  refine (List.zipIdx_snd_lt rk 0).imp ?_
  intro p q hlt b hb c hc
  simp only [Option.ite_none_left_eq_some, Option.some.injEq] at hb hc
  rw [← hb.2, ← hc.2]
  intro e
  exact Nat.ne_of_lt hlt (Option.some.inj (congrArg Prod.snd e))

theorem emit_sublist (i : Nat) (b : List Nat) : (emit false i b).Sublist (emit true i b) := by
  unfold emit
  cases b <;> simp

theorem inner_sublist_left (lk rk : List K) : ((innerSpec lk rk).map liftPair).Sublist (leftSpec lk rk) := by
  rw [← probeRows_inner, ← probeRows_left]
  exact List.flatMap_sublist _ _ _ (fun p => emit_sublist p.2 _)

end keys

section assemble
variable {α : Type}

theorem row_resultCols (pad : α) (L R : Tab α) (ps : List Pair) (p : Nat) (h : p < ps.length) :
    (resultCols pad L R ps).map (fun c => c[p]?.getD pad)
      = rowAt pad L.cols ps[p].1 ++ rowAt pad R.cols ps[p].2 := by
  simp only [resultCols, rowAt, List.map_append, List.map_map]
  congr 1
  · apply List.map_congr_left
    intro c _
    simp [List.getElem?_map, List.getElem?_eq_getElem h]
  · apply List.map_congr_left
    intro c _
    simp [List.getElem?_map, List.getElem?_eq_getElem h]

theorem rowAt_some (pad : α) (cols : List (List α)) (i : Nat) :
    rowAt pad cols (some i) = cols.map (fun c => c[i]?.getD pad) := rfl

end assemble

/-! `validatePairs` where one list of key specs has run out: the base cases of the loop tie (`Tie.pairLoop_eq`) -/

theorem validatePairs_nil_left (L R : Tab Cell) (rs : List KeySpec) : validatePairs L R [] rs = .ok [] := by
  rw [validatePairs]
  intros
  contradiction

theorem validatePairs_nil_right (L R : Tab Cell) (ls : List KeySpec) : validatePairs L R ls [] = .ok [] := by
  rw [validatePairs]
  intros
  contradiction

end Join
end Serif
