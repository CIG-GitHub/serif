/-
  Helper lemmas for C14.  One stable insertion sort `isort le` is a permutation, sorted, leaves every tie class in input order
  (stability is stated as `filter (eqv le a)` unchanged), and is the only such list (`unique_stable_sorted`).  The loop `sortKeys`
  (one stable sort per key, last key first) is one stable sort by the lexicographic order (`sortKeys_eq_isort_lexLE`, from the
  two-pass step `isort_isort_lexLE`); every lemma about `sortKeys` is the `isort` lemma read at `lexLE les` through that equation.
-/
import Serif.Model.Sort

namespace Serif.Sort

section generic
variable {α : Type}

theorem isort_cons (le : α → α → Bool) (x : α) (xs : List α) :
    isort le (x :: xs) = ins le x (isort le xs) := rfl

theorem isort_nil (le : α → α → Bool) : isort le ([] : List α) = [] := rfl

theorem ins_perm (le : α → α → Bool) (x : α) (l : List α) : (ins le x l).Perm (x :: l) := by
  induction l with
  | nil => simp [ins]
  | cons y ys ih =>
    simp only [ins]; split
    · exact List.Perm.refl _
    · exact (List.Perm.cons y ih).trans (List.Perm.swap x y ys)

theorem isort_perm (le : α → α → Bool) (l : List α) : (isort le l).Perm l := by
  induction l with
  | nil => simp [isort]
  | cons x xs ih => exact (ins_perm le x _).trans (List.Perm.cons x ih)

theorem TotalPreorder.refl {le : α → α → Bool} (h : TotalPreorder le) (a : α) : le a a = true := by
  rcases h.total a a with h | h <;> exact h

theorem TotalPreorder.comap {α β : Type} {le : β → β → Bool} (h : TotalPreorder le) (f : α → β) :
    TotalPreorder (fun a b => le (f a) (f b)) :=
  ⟨fun _ _ => h.total _ _, fun _ _ _ => h.trans _ _ _⟩

theorem TotalPreorder.flip {α : Type} {le : α → α → Bool} (h : TotalPreorder le) : TotalPreorder (fun a b => le b a) :=
  ⟨fun a b => h.total b a, fun _ _ _ hab hbc => h.trans _ _ _ hbc hab⟩

theorem ins_sorted {le : α → α → Bool} (h : TotalPreorder le) (x : α) (l : List α)
    (hl : l.Pairwise (fun a b => le a b = true)) :
    (ins le x l).Pairwise (fun a b => le a b = true) := by
  induction l with
  | nil => simp [ins]
  | cons y ys ih =>
    have ⟨hy, hys⟩ := List.pairwise_cons.mp hl
    simp only [ins]
    split
    · rename_i hxy
      refine List.Pairwise.cons ?_ hl
      intro z hz
      rcases List.mem_cons.mp hz with rfl | hz
      · exact hxy
      · exact h.trans _ _ _ hxy (hy z hz)
    · rename_i hxy
      have hyx : le y x = true := (h.total x y).resolve_left hxy
      refine List.Pairwise.cons ?_ (ih hys)
      intro z hz
      have hz' : z ∈ x :: ys := (ins_perm le x ys).mem_iff.mp hz
      rcases List.mem_cons.mp hz' with rfl | hz'
      · exact hyx
      · exact hy z hz'

theorem isort_sorted {le : α → α → Bool} (h : TotalPreorder le) (l : List α) :
    (isort le l).Pairwise (fun a b => le a b = true) := by
  induction l with
  | nil => simp [isort]
  | cons x xs ih => exact ins_sorted h x _ ih

theorem isort_of_sorted {le : α → α → Bool} (l : List α) (hl : l.Pairwise (fun a b => le a b = true)) :
    isort le l = l := by
  induction l with
  | nil => rfl
  | cons x xs ih =>
    have ⟨hx, hxs⟩ := List.pairwise_cons.mp hl
    rw [isort_cons, ih hxs]
    cases xs with
    | nil => rfl
    | cons y ys => simp [ins, hx y List.mem_cons_self]

theorem le_of_eqv_of_eqv {le : α → α → Bool} (h : TotalPreorder le) {a x y : α}
    (hx : eqv le a x = true) (hy : eqv le a y = true) : le x y = true := by
  simp only [eqv, Bool.and_eq_true] at hx hy
  exact h.trans _ _ _ hx.2 hy.1

/-- stability of one insertion, for any part `p` of the tie class of `a` (`a` only names the class) -/
theorem filter_ins_of_imp {le : α → α → Bool} (h : TotalPreorder le) (a x : α) {p : α → Bool}
    (hp : ∀ x, p x = true → eqv le a x = true) (m : List α) : (ins le x m).filter p = (x :: m).filter p := by
  induction m with
  | nil => rfl
  | cons y ys ih =>
    simp only [ins]; split
    · rfl
    · rename_i hxy
      rw [List.filter_cons, ih]
      by_cases hy : p y = true
      · have hx : p x = false := Bool.eq_false_iff.mpr fun hx => hxy (le_of_eqv_of_eqv h (hp x hx) (hp y hy))
        simp [hx, hy]
      · simp [List.filter_cons, hy]

theorem filter_isort_of_imp {le : α → α → Bool} (h : TotalPreorder le) (a : α) {p : α → Bool}
    (hp : ∀ x, p x = true → eqv le a x = true) (l : List α) : (isort le l).filter p = l.filter p := by
  induction l with
  | nil => rfl
  | cons x xs ih =>
    rw [isort_cons, filter_ins_of_imp h a x hp, List.filter_cons, List.filter_cons, ih]

theorem filter_isort_eqv {le : α → α → Bool} (h : TotalPreorder le) (a : α) (l : List α) :
    (isort le l).filter (eqv le a) = l.filter (eqv le a) :=
  filter_isort_of_imp h a (fun _ => id) l

theorem pair_sublist_filter {p : α → Bool} {a b : α} {l : List α} (h : [a, b].Sublist l)
    (ha : p a = true) (hb : p b = true) : [a, b].Sublist (l.filter p) := by
  have := h.filter p
  simpa [List.filter_cons, ha, hb] using this

theorem head_le_of_perm {le : α → α → Bool} (h : TotalPreorder le) {x y : α} {xs ys : List α}
    (hp : (x :: xs).Perm (y :: ys)) (hx : ∀ z ∈ xs, le x z = true) : le x y = true := by
  rcases List.mem_cons.mp (hp.mem_iff.mpr List.mem_cons_self) with rfl | hm
  · exact h.refl _
  · exact hx y hm

/-- the class equation is asked only for `a ∈ r₁`: that is all the executable contract `checkSorted` computes, and all the proof uses
    (`a` is always the head of what is left of `r₁`) -/
theorem unique_stable_sorted {le : α → α → Bool} (h : TotalPreorder le) :
    ∀ (r₁ r₂ : List α), r₁.Perm r₂ →
      r₁.Pairwise (fun a b => le a b = true) → r₂.Pairwise (fun a b => le a b = true) →
      (∀ a ∈ r₁, r₁.filter (eqv le a) = r₂.filter (eqv le a)) → r₁ = r₂ := by
  intro r₁
  induction r₁ with
  | nil => intro r₂ hp _ _ _; exact (List.nil_perm.mp hp).symm
  | cons x xs ih =>
    intro r₂ hp h1 h2 hf
    cases r₂ with
    | nil => exact absurd hp.symm (by simp)
    | cons y ys =>
      have ⟨hx, hxs⟩ := List.pairwise_cons.mp h1
      have ⟨hy, hys⟩ := List.pairwise_cons.mp h2
      -- x and y are both minimal, hence tied
      have hxy : le x y = true := head_le_of_perm h hp hx
      have hyx : le y x = true := head_le_of_perm h hp.symm hy
      have e := hf x List.mem_cons_self
      have exx : eqv le x x = true := by simp [eqv, h.refl x]
      have exy : eqv le x y = true := by simp [eqv, hxy, hyx]
      simp only [List.filter_cons, exx, exy, if_true] at e
      have hxy' : x = y := (List.cons.inj e).1
      subst hxy'
      have hp' : xs.Perm ys := List.Perm.cons_inv hp
      congr 1
      apply ih ys hp' hxs hys
      intro a ha
      have e := hf a (List.mem_cons_of_mem _ ha)
      simp only [List.filter_cons] at e
      split at e
      · exact (List.cons.inj e).2
      · exact e

theorem lexLE_totalPreorder {les : List (α → α → Bool)} (h : ∀ le ∈ les, TotalPreorder le) :
    TotalPreorder (lexLE les) := by
  induction les with
  | nil => exact ⟨fun _ _ => Or.inl rfl, fun _ _ _ _ _ => rfl⟩
  | cons le rest ih =>
    have hle := h le List.mem_cons_self
    have hr := ih (fun l hl => h l (List.mem_cons_of_mem _ hl))
    constructor
    · intro a b
      simp only [lexLE]
      -- a strict first key decides; a tie on it hands over to the remaining keys
      cases hba : le b a
      · have hab : le a b = true := (hle.total a b).resolve_right (by simp [hba])
        exact Or.inl (by simp [hab])
      · cases hab : le a b
        · exact Or.inr (by simp)
        · simpa using hr.total a b
    · intro a b c hab hbc
      simp only [lexLE, Bool.and_eq_true, Bool.or_eq_true, Bool.not_eq_true'] at hab hbc ⊢
      refine ⟨hle.trans _ _ _ hab.1 hbc.1, ?_⟩
      -- if `le c a` too, the three are tied on `le` and the rest of the keys decides
      refine (Bool.eq_false_or_eq_true (le c a)).symm.imp_right fun hca => ?_
      have hba := hle.trans _ _ _ hbc.1 hca
      have hcb := hle.trans _ _ _ hca hab.1
      have h1 : lexLE rest a b = true := hab.2.resolve_left (by simp [hba])
      have h2 : lexLE rest b c = true := hbc.2.resolve_left (by simp [hcb])
      exact hr.trans _ _ _ h1 h2

theorem eqv_lexLE (les : List (α → α → Bool)) (a : α) : eqv (lexLE les) a = allTied les a := by
  funext b
  induction les with
  | nil => rfl
  | cons le rest ih =>
    simp only [allTied, ← ih]
    simp only [eqv, lexLE]
    cases le a b <;> cases le b a <;> simp

theorem allTied_refl {les : List (α → α → Bool)} (h : ∀ le ∈ les, TotalPreorder le) (a : α) :
    allTied les a a = true := by
  rw [← eqv_lexLE]
  simp [eqv, (lexLE_totalPreorder h).refl a]

theorem lexLE_comap {α β : Type} (f : β → α) (les : List (α → α → Bool)) (a b : β) :
    lexLE (les.map (fun le a b => le (f a) (f b))) a b = lexLE les (f a) (f b) := by
  induction les with
  | nil => rfl
  | cons le rest ih => simp only [List.map_cons, lexLE, ih]

theorem sortKeys_nil (l : List α) : sortKeys ([] : List (α → α → Bool)) l = l := rfl

theorem sortKeys_cons (le : α → α → Bool) (rest : List (α → α → Bool)) (l : List α) :
    sortKeys (le :: rest) l = isort le (sortKeys rest l) := by
  simp [sortKeys, List.foldl_append]

theorem sortKeys_perm (les : List (α → α → Bool)) (l : List α) : (sortKeys les l).Perm l := by
  induction les with
  | nil => exact List.Perm.refl _
  | cons le rest ih => rw [sortKeys_cons]; exact (isort_perm le _).trans ih

theorem isort_isort_lexLE {le : α → α → Bool} {rest : List (α → α → Bool)}
    (h : ∀ le' ∈ le :: rest, TotalPreorder le') (l : List α) :
    isort le (isort (lexLE rest) l) = isort (lexLE (le :: rest)) l := by
  have hle := h le List.mem_cons_self
  have hr := lexLE_totalPreorder (fun l hl => h l (List.mem_cons_of_mem _ hl))
  have hL := lexLE_totalPreorder h
  apply unique_stable_sorted hL
  · exact (isort_perm _ _).trans ((isort_perm _ _).trans (isort_perm _ _).symm)
  · rw [List.pairwise_iff_forall_sublist]
    intro a b hab
    have h1 : le a b = true := List.pairwise_iff_forall_sublist.mp (isort_sorted hle _) hab
    simp only [lexLE, Bool.and_eq_true, Bool.or_eq_true, Bool.not_eq_true']
    refine ⟨h1, (Bool.eq_false_or_eq_true (le b a)).symm.imp_right fun h2 => ?_⟩
    -- `a`, `b` are tied on `le`, so the pass by `le` kept them in the order the earlier passes gave them
    have s1 := pair_sublist_filter hab (show eqv le a a = true by simp [eqv, hle.refl a])
      (show eqv le a b = true by simp [eqv, h1, h2])
    rw [filter_isort_eqv hle] at s1
    exact List.pairwise_iff_forall_sublist.mp (isort_sorted hr l) (s1.trans List.filter_sublist)
  · exact isort_sorted hL l
  · intro a _
    -- tied on all keys is tied on `le` and on the remaining keys: both passes leave the class in place
    have hp : ∀ x, eqv (lexLE (le :: rest)) a x = true → eqv le a x = true ∧ eqv (lexLE rest) a x = true := by
      intro x
      rw [eqv_lexLE, eqv_lexLE]
      simp [allTied]
    rw [filter_isort_of_imp hle a (fun x hx => (hp x hx).1), filter_isort_of_imp hr a (fun x hx => (hp x hx).2),
      filter_isort_eqv hL]

theorem sortKeys_eq_isort_lexLE {les : List (α → α → Bool)} (h : ∀ le ∈ les, TotalPreorder le) (l : List α) :
    sortKeys les l = isort (lexLE les) l := by
  induction les with
  | nil => exact (isort_of_sorted l (List.pairwise_iff_forall_sublist.mpr fun _ => rfl)).symm
  | cons le rest ih =>
    rw [sortKeys_cons, ih (fun l hl => h l (List.mem_cons_of_mem _ hl)), isort_isort_lexLE h]

theorem sortKeys_sorted {les : List (α → α → Bool)} (h : ∀ le ∈ les, TotalPreorder le) (l : List α) :
    (sortKeys les l).Pairwise (fun a b => lexLE les a b = true) := by
  rw [sortKeys_eq_isort_lexLE h]; exact isort_sorted (lexLE_totalPreorder h) l

theorem filter_sortKeys_allTied {les : List (α → α → Bool)} (h : ∀ le ∈ les, TotalPreorder le)
    (a : α) (l : List α) :
    (sortKeys les l).filter (allTied les a) = l.filter (allTied les a) := by
  rw [sortKeys_eq_isort_lexLE h, ← eqv_lexLE]; exact filter_isort_eqv (lexLE_totalPreorder h) a l

theorem sortKeys_unique {les : List (α → α → Bool)} (h : ∀ le ∈ les, TotalPreorder le) (l p : List α)
    (hp : p.Perm l) (hs : p.Pairwise (fun a b => lexLE les a b = true))
    (hf : ∀ a ∈ l, p.filter (allTied les a) = l.filter (allTied les a)) :
    p = sortKeys les l := by
  have hL := lexLE_totalPreorder h
  rw [sortKeys_eq_isort_lexLE h]
  refine unique_stable_sorted hL p _ (hp.trans (isort_perm _ l).symm) hs (isort_sorted hL l) fun a ha => ?_
  rw [filter_isort_eqv hL, eqv_lexLE]
  exact hf a (hp.mem_iff.mp ha)

theorem sortKeys_of_sorted {les : List (α → α → Bool)} (h : ∀ le ∈ les, TotalPreorder le) {l : List α}
    (hl : l.Pairwise (fun a b => lexLE les a b = true)) : sortKeys les l = l := by
  rw [sortKeys_eq_isort_lexLE h, isort_of_sorted _ hl]

theorem pairwiseB_iff (r : α → α → Bool) (l : List α) :
    pairwiseB r l = true ↔ l.Pairwise (fun a b => r a b = true) := by
  induction l with
  | nil => simp [pairwiseB]
  | cons x xs ih => simp [pairwiseB, ih, List.all_eq_true]

theorem checkSorted_iff [BEq α] [LawfulBEq α] (les : List (α → α → Bool)) (l p : List α) :
    checkSorted les l p = true ↔
      p.Perm l ∧ p.Pairwise (fun a b => lexLE les a b = true) ∧
      ∀ a ∈ l, p.filter (allTied les a) = l.filter (allTied les a) := by
  simp [checkSorted, pairwiseB_iff, List.isPerm_iff, List.all_eq_true, and_assoc]

theorem checkSorted_sortKeys [BEq α] [LawfulBEq α] {les : List (α → α → Bool)} (h : ∀ le ∈ les, TotalPreorder le)
    (l : List α) : checkSorted les l (sortKeys les l) = true :=
  (checkSorted_iff les l _).mpr ⟨sortKeys_perm les l, sortKeys_sorted h l, fun a _ => filter_sortKeys_allTied h a l⟩

theorem sortKeys_congr {les les' : List (α → α → Bool)} (h : les = les') (l : List α) :
    sortKeys les l = sortKeys les' l := by rw [h]

end generic

variable {tbl : Bool → Bool → Bool → Bool}

theorem valLt_irrefl (c : Cell) : valLt c c = false := by cases c <;> simp [valLt]

theorem specLE_rev (naLast : Bool) : specLE true naLast = fun a b => specLE false (!naLast) b a := by
  funext a b
  cases a <;> cases b <;> simp [specLE]

theorem specLE_totalPreorder (rev naLast : Bool) : TotalPreorder (specLE rev naLast) := by
  have asc : ∀ naLast, TotalPreorder (specLE false naLast) := fun naLast => by
    constructor
    · intro a b
      cases a <;> cases b <;> simp [specLE, Nat.le_total]
    · rintro (_ | x) (_ | y) (_ | z) <;> simp [specLE]
      -- left over: a value between two Nones, a None between two values (impossible whatever `naLast`), three values
      · cases naLast <;> simp
      · cases naLast <;> simp
      · exact Nat.le_trans
  cases rev
  · exact asc naLast
  · rw [specLE_rev]; exact (asc _).flip

theorem specLE_isNone {rev naLast : Bool} {a b : Cell} (h : specLE rev naLast a b = true)
    (hne : a.isNone ≠ b.isNone) : b.isNone = naLast := by
  cases a <;> cases b <;> simp_all [specLE]

theorem specElemLE_totalPreorder (rev naLast : Bool) : TotalPreorder (specElemLE rev naLast) :=
  (specLE_totalPreorder rev naLast).comap (fun e : Elem => e.1)

/-- A flag that puts None where `naLast != rev` says makes Python's tuple order the specified one. -/
theorem pyLE_eq_specLE (flag : Bool → Bool) (rev naLast : Bool)
    (hn : flag true = (naLast != rev)) (hv : flag false = (naLast == rev)) (a b : Cell) :
    pyLE flag rev a b = specLE rev naLast a b := by
  cases a <;> cases b <;> simp only [pyLE, keyLt, valLt, specLE, hn, hv, Option.isNone_none, Option.isNone_some]
  · simp
  -- None against a value: the flags differ and decide alone, a truth table in `rev`, `naLast`
  · clear hn hv
    revert rev naLast
    decide
  · clear hn hv
    revert rev naLast
    decide
  -- two values: equal flags, and `¬ y < x` is `x ≤ y`
  · cases rev <;> simp [← Nat.not_le]

theorem flagOK_iff : flagOK tbl = true ↔
    ∀ rev naLast, tbl true rev naLast = (naLast != rev) ∧ tbl false rev naLast = (naLast == rev) := by
  simp only [flagOK, List.all_cons, List.all_nil, Bool.and_true, Bool.and_eq_true, beq_iff_eq, Bool.forall_bool,
    and_assoc]

theorem pyLE_table_eq_specLE (h : flagOK tbl = true) (rev naLast : Bool)
    (a b : Cell) : pyLE (fun n => tbl n rev naLast) rev a b = specLE rev naLast a b :=
  have ⟨hn, hv⟩ := flagOK_iff.mp h rev naLast
  pyLE_eq_specLE _ rev naLast hn hv a b

theorem flagOK_separates (h : flagOK tbl = true) (rev naLast : Bool) :
    tbl true rev naLast ≠ tbl false rev naLast := by
  have ⟨hn, hv⟩ := flagOK_iff.mp h rev naLast
  rw [hn, hv]
  cases naLast <;> cases rev <;> decide

theorem rowLE_eq_spec (h : flagOK tbl = true) (naLast : Bool)
    (kr : List Cell × Bool) : rowLE tbl naLast kr = specRowLE naLast kr := by
  funext i j; exact pyLE_table_eq_specLE h kr.2 naLast _ _

theorem sortIndices_eq_spec (h : flagOK tbl = true) (naLast : Bool)
    (keys : List (List Cell × Bool)) (n : Nat) :
    sortIndices tbl naLast keys n = sortKeys (keys.map (specRowLE naLast)) (List.range n) := by
  unfold sortIndices
  congr 1
  exact List.map_congr_left (fun kr _ => rowLE_eq_spec h naLast kr)

/-- the empty-table shortcut of the source: with no rows the index list is empty -/
theorem sortIndices_zero (naLast : Bool) (keys : List (List Cell × Bool)) :
    sortIndices tbl naLast keys 0 = [] :=
  (sortKeys_perm _ _).eq_nil

theorem specRows_totalPreorder (naLast : Bool) (keys : List (List Cell × Bool)) :
    ∀ le ∈ keys.map (specRowLE naLast), TotalPreorder le :=
  List.forall_mem_map.mpr fun kr _ => (specLE_totalPreorder kr.2 naLast).comap (cellAt kr.1)

theorem elemLE_eq_spec (h : flagOK tbl = true) (rev naLast : Bool) :
    elemLE tbl rev naLast = specElemLE rev naLast := by
  funext a b; exact pyLE_table_eq_specLE h rev naLast _ _

theorem sortByVector_eq_isort (h : flagOK tbl = true) (rev naLast : Bool)
    (data : List Elem) : sortByVector tbl rev naLast data = isort (specElemLE rev naLast) data := by
  rw [sortByVector, elemLE_eq_spec h]

theorem sortByVector_eq_spec (h : flagOK tbl = true) (rev naLast : Bool)
    (data : List Elem) : sortByVector tbl rev naLast data = sortKeys [specElemLE rev naLast] data := by
  rw [sortKeys_cons, sortKeys_nil, sortByVector_eq_isort h]

theorem specElems_totalPreorder (rev naLast : Bool) :
    ∀ le ∈ [specElemLE rev naLast], TotalPreorder le :=
  List.forall_mem_singleton.mpr (specElemLE_totalPreorder rev naLast)

theorem pair_sublist_range {i j n : Nat} (hij : i < j) (hj : j < n) : [i, j].Sublist (List.range n) := by
  induction n with
  | zero => omega
  | succ n ih =>
    rw [List.range_succ]
    by_cases h : j < n
    · exact (ih h).trans (List.sublist_append_left _ _)
    · have : j = n := by omega
      subst this
      have h1 : [i].Sublist (List.range j) := List.singleton_sublist.mpr (List.mem_range.mpr hij)
      exact h1.append (List.Sublist.refl [j])

theorem gather_range {β : Type} (d : β) (src : List β) : gather d src (List.range src.length) = src := by
  apply List.ext_getElem
  · simp [gather]
  · intro i h1 h2
    simp [gather, h2]

theorem sortKeys_positions {α : Type} {les : List (α → α → Bool)} (h : ∀ le ∈ les, TotalPreorder le) {p : List α}
    (hp : p.Pairwise (fun a b => lexLE les a b = true)) (d : α) :
    sortKeys (les.map (fun le i j => le (p.getD i d) (p.getD j d))) (List.range p.length) = List.range p.length := by
  apply sortKeys_of_sorted
  · intro le hle
    obtain ⟨le', h', rfl⟩ := List.mem_map.mp hle
    exact (h le' h').comap _
  · simp only [lexLE_comap]
    refine List.pairwise_lt_range.imp_of_mem fun {i j} hi hj hij => ?_
    rw [List.mem_range] at hi hj
    simpa [hi, hj] using List.pairwise_iff_getElem.mp hp i j hi hj hij

theorem cellAt_gather (col : List Cell) (p : List Nat) (hlen : col.length = p.length) (i : Nat) :
    cellAt (gather none col p) i = cellAt col (p.getD i p.length) := by
  simp only [cellAt, gather, List.getD_eq_getElem?_getD, List.getElem?_map]
  by_cases h : i < p.length
  · simp [h]
  · have h' : p.length ≤ i := Nat.le_of_not_lt h
    simp [List.getElem?_eq_none h', hlen]

/-- `Table._resolve_column` on the model's view of one key -/
def resolveKey : KeySrc → Res (List Cell)
  | .missing => .error .key
  | .bad => .error .type
  | .cells c => .ok c

/-- the model's `resolve` is: `_resolve_column`, then the length check, for every key in order -/
theorem resolve_cons (n : Nat) (k : KeySrc) (ks : List KeySrc) :
    resolve n (k :: ks) =
      match resolveKey k with
      | .error e => .error e
      | .ok c =>
        if c.length != n then .error .value
        else match resolve n ks with
          | .ok cs => .ok (c :: cs)
          | .error e => .error e := by
  cases k <;> rfl

theorem resolve_isOk (n : Nat) (ks : List KeySrc) : (resolve n ks).isOk = ks.all (keyOK n) := by
  induction ks with
  | nil => rfl
  | cons k ks ih =>
    cases k with
    | missing => rfl
    | bad => rfl
    | cells c =>
      rw [resolve_cons, List.all_cons, ← ih, keyOK]
      by_cases hc : c.length = n <;> cases resolve n ks <;> simp [resolveKey, hc, Except.isOk, Except.toBool]

/-- every resolved column has `n` cells (not the number of columns: `cols.length = ks.length` is not stated) -/
theorem resolve_lengths {n : Nat} : ∀ {ks : List KeySrc} {cols : List (List Cell)},
    resolve n ks = .ok cols → ∀ c ∈ cols, c.length = n := by
  intro ks
  induction ks with
  | nil =>
    intro cols h
    cases h
    simp
  | cons k ks ih =>
    intro cols h
    cases k with
    | missing => cases h
    | bad => cases h
    | cells c =>
      simp only [resolve] at h
      split at h
      · cases h
      · rename_i hlen
        cases hr : resolve n ks with
        | error e => rw [hr] at h; cases h
        | ok cs =>
          rw [hr] at h; cases h
          exact List.forall_mem_cons.mpr ⟨by simpa using hlen, ih hr⟩

theorem normRev_isOk (k : Nat) (rev : RevArg) : (normRev k rev).isOk = revOK k rev := by
  cases rev with
  | one b => rfl
  | many bs => by_cases h : bs.length = k <;> simp [normRev, revOK, h, Except.isOk, Except.toBool]
  | other => rfl

theorem validateKeys_isOk (n : Nat) (rev : RevArg) (ks : List KeySrc) :
    (validateKeys n rev ks).isOk = (revOK ks.length rev && ks.all (keyOK n)) := by
  rw [← normRev_isOk, ← resolve_isOk, validateKeys]
  cases normRev ks.length rev <;> cases resolve n ks <;> rfl

theorem validate_isOk (n : Nat) (by_ : ByArg) (rev : RevArg) : (validate n by_ rev).isOk = wellFormed n by_ rev := by
  cases by_ with
  | single k => exact validateKeys_isOk n rev [k]
  | seq ks =>
    cases ks with
    | nil => rfl
    | cons k ks => exact validateKeys_isOk n rev (k :: ks)
  | other => rfl

/-- `validate` answers exactly when its three stages do, with the zipped result -/
theorem validate_eq_ok {n : Nat} {by_ : ByArg} {rev : RevArg} {keys : List (List Cell × Bool)} :
    validate n by_ rev = .ok keys ↔
      ∃ ks revs cols, normBy by_ = .ok ks ∧ normRev ks.length rev = .ok revs ∧ resolve n ks = .ok cols ∧
        keys = cols.zip revs := by
  constructor
  · intro hv
    unfold validate at hv
    split at hv
    · cases hv
    · rename_i ks hks
      unfold validateKeys at hv
      split at hv
      · cases hv
      · rename_i revs hrevs
        split at hv
        · cases hv
        · rename_i cols hcols
          cases hv
          exact ⟨ks, revs, cols, hks, hrevs, hcols, rfl⟩
  · rintro ⟨ks, revs, cols, hks, hrevs, hcols, rfl⟩
    simp only [validate, hks, validateKeys, hrevs, hcols]

theorem validate_lengths {n : Nat} {by_ : ByArg} {rev : RevArg} {keys : List (List Cell × Bool)}
    (hv : validate n by_ rev = .ok keys) : ∀ kr ∈ keys, kr.1.length = n := by
  obtain ⟨ks, revs, cols, _, _, hcols, rfl⟩ := validate_eq_ok.mp hv
  exact fun kr hkr => resolve_lengths hcols kr.1 (List.of_mem_zip hkr).1

theorem sortByTable_ok {n : Nat} {by_ : ByArg} {rev : RevArg} {naLast : Bool}
    {keys : List (List Cell × Bool)} (hv : validate n by_ rev = .ok keys) :
    sortByTable tbl n by_ rev naLast = .ok (sortIndices tbl naLast keys n) := by
  rw [sortByTable, hv]

theorem sortByTable_error {n : Nat} {by_ : ByArg} {rev : RevArg} {naLast : Bool}
    {e : Err} (hv : validate n by_ rev = .error e) : sortByTable tbl n by_ rev naLast = .error e := by
  rw [sortByTable, hv]

end Serif.Sort
