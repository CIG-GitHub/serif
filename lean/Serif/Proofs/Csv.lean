/- `readCsv` on a non-empty input in one closed form (`readCsv_cons`); what C19 says about names, columns and cells is read off it. -/
import Serif.Model.Csv

namespace Serif.Csv

variable {τ ν : Type}

theorem column_nil (O : Oracle τ ν) (c : Nat) : column O ([] : List (List τ)) c = [] := rfl

variable (O : Oracle τ ν)

theorem specCell_eq (rec : List τ) (c : Nat) :
    specCell O rec c = cellAt O rec c := by
  unfold specCell cellAt
  split <;> simp [*]

theorem column_length (rows : List (List τ)) (c : Nat) :
    (column O rows c).length = rows.length := by
  simp [column]

theorem column_getElem? (rows : List (List τ)) (c r : Nat) :
    (column O rows c)[r]? = (rows[r]?).map (fun rec => specCell O rec c) := by
  simp only [column, List.getElem?_map]
  cases rows[r]? with
  | none => rfl
  | some rec => simp only [Option.map_some, specCell_eq]

theorem cellAt_take {k c : Nat} (h : c < k) (r : List τ) : cellAt O (r.take k) c = cellAt O r c := by
  simp [cellAt, h]

theorem column_map_take {k c : Nat} (h : c < k) (rows : List (List τ)) :
    column O (rows.map (List.take k)) c = column O rows c := by
  simp [column, cellAt_take O h]

/-- header of the table: the first record verbatim, or generated names -/
def headerOf (hasHeader : Bool) (first : List τ) : List String :=
  if hasHeader then first.map O.raw else colNames first.length

section
variable (hh : Bool) (first : List τ) (rest : List (List τ))

theorem headerOf_length : (headerOf O hh first).length = first.length := by
  cases hh <;> simp [headerOf, colNames]

/-- both branches of `readCsv` (header only / at least one data record) in one closed form -/
theorem readCsv_cons :
    readCsv O hh (first :: rest) =
      (headerOf O hh first).mapIdx
        (fun c h => { name := h, data := column O (dataRecords hh (first :: rest)) c }) := by
  cases hh
  · rfl
  · cases rest with
    | nil => exact (List.mapIdx_eq_iff.mpr fun i => by simp [readCsv, column, headerOf, dataRecords]).symm
    | cons r rs => rfl

theorem readCsv_length :
    (readCsv O hh (first :: rest)).length = first.length := by
  rw [readCsv_cons, List.length_mapIdx, headerOf_length]

theorem names_readCsv :
    names (readCsv O hh (first :: rest)) = headerOf O hh first := by
  rw [readCsv_cons]
  apply List.ext_getElem?
  intro i
  simp only [names, List.getElem?_map, List.getElem?_mapIdx]
  cases (headerOf O hh first)[i]? <;> rfl

end

end Serif.Csv
