/-
  Lemmas about the rolling hash (used by Props/C16).  The idea throughout: `ev P B t hs` is, modulo P, the Horner value
  `lin B t hs = t·B^n + Σ hᵢ·B^(n-1-i)` (`ev_lin`).  What a change of the input does to `lin` is an identity in ℤ
  (`lin_sub`, `lin_set`, `lin_swap`); equal hashes make the difference of the Horner values a multiple of P
  (`lin_dvd_of_ev_eq`), and factors prime to P cancel from it (`dvd_of_dvd_mul_coprime`).
-/
import Serif.Model.Fingerprint

namespace Serif.FP

def lin (B t : Int) (hs : List Int) : Int := hs.foldl (fun a h => a * B + h) t

theorem lin_cons (B t h : Int) (hs : List Int) : lin B t (h :: hs) = lin B (t * B + h) hs := rfl

theorem lin_append (B t : Int) (xs ys : List Int) : lin B t (xs ++ ys) = lin B (lin B t xs) ys :=
  List.foldl_append

theorem lin_sub (B : Int) (hs : List Int) (t t' : Int) : lin B t hs - lin B t' hs = (t - t') * B ^ hs.length := by
  induction hs generalizing t t' with
  | nil => simp [lin]
  | cons h hs ih =>
    rw [lin_cons, lin_cons, ih, List.length_cons]
    grobner

theorem lin_set (B t : Int) (pre post : List Int) (x y : Int) :
    lin B t (pre ++ y :: post) - lin B t (pre ++ x :: post) = (y - x) * B ^ post.length := by
  rw [lin_append, lin_append, lin_cons, lin_cons, lin_sub]
  grobner

theorem lin_swap (B t : Int) (pre post : List Int) (a b : Int) :
    lin B t (pre ++ a :: b :: post) - lin B t (pre ++ b :: a :: post) = (a - b) * (B - 1) * B ^ post.length := by
  rw [lin_append, lin_append]
  simp only [lin_cons]
  rw [lin_sub]
  grobner

theorem roll_cong (P B t h : Int) : P ∣ roll P B t h - (t * B + h) := Int.dvd_emod_sub_self

theorem ev_append (P B t0 : Int) (xs ys : List Int) : ev P B t0 (xs ++ ys) = ev P B (ev P B t0 xs) ys :=
  List.foldl_append

theorem ev_lin (P B : Int) (hs : List Int) (t : Int) : P ∣ ev P B t hs - lin B t hs := by
  induction hs generalizing t with
  | nil => simp [ev, lin]
  | cons h hs ih =>
    -- one reduced step, then the tail from an accumulator that is off by a multiple of P
    have e : ev P B t (h :: hs) - lin B t (h :: hs)
        = (ev P B (roll P B t h) hs - lin B (roll P B t h) hs) + (roll P B t h - (t * B + h)) * B ^ hs.length := by
      rw [← lin_sub]
      simp only [ev, lin, List.foldl_cons]
      grobner
    rw [e]
    exact Int.dvd_add (ih _) (Int.dvd_mul_of_dvd_left (roll_cong P B t h))

theorem ev_sub_lin (P B t t' : Int) (l l' : List Int) :
    P ∣ (ev P B t l - ev P B t' l') - (lin B t l - lin B t' l') := by
  have e : ∀ a b c d : Int, (a - b) - (c - d) = (a - c) - (b - d) := fun a b c d => by omega
  exact e .. ▸ Int.dvd_sub (ev_lin P B l t) (ev_lin P B l' t')

theorem lin_dvd_of_ev_eq {P B t t' : Int} {l l' : List Int} (h : ev P B t l = ev P B t' l') :
    P ∣ lin B t l - lin B t' l' := by
  have h0 : P ∣ ev P B t l - ev P B t' l' := by
    rw [h, Int.sub_self]
    exact Int.dvd_zero _
  exact (Int.dvd_iff_dvd_of_dvd_sub (ev_sub_lin P B t t' l l')).mp h0

theorem ev_set_cong (P B t : Int) (pre post : List Int) (x y : Int) :
    P ∣ (ev P B t (pre ++ y :: post) - ev P B t (pre ++ x :: post)) - (y - x) * B ^ post.length :=
  lin_set B t pre post x y ▸ ev_sub_lin P B t t _ _

-- From here to `Htab_antidiag_ne`, `P B : ℕ`: coprimality lives in ℕ, and `ev P B`, `H P B` cast them.
-- The range lemmas after that are over `Int` again.
theorem dvd_of_dvd_mul_coprime {P c : Nat} (hc : Nat.Coprime c P) {a : Int} (h : (P : Int) ∣ a * c) : (P : Int) ∣ a := by
  have h1 : P ∣ a.natAbs * c := by simpa [Int.natAbs_mul] using Int.ofNat_dvd_left.mp h
  exact Int.ofNat_dvd_left.mpr (hc.symm.dvd_of_dvd_mul_right h1)

theorem dvd_of_dvd_mul_pow (P B : Nat) (hc : Nat.Coprime B P) (a : Int) (k : Nat)
    (h : (P : Int) ∣ a * (B : Int) ^ k) : (P : Int) ∣ a :=
  dvd_of_dvd_mul_coprime (hc.pow_left k) (by rwa [Int.natCast_pow])

theorem ev_set_ne (P B : Nat) (hc : Nat.Coprime B P) (t0 : Int) (pre post : List Int) (x y : Int)
    (hxy : ¬ (P : Int) ∣ y - x) :
    ev P B t0 (pre ++ y :: post) ≠ ev P B t0 (pre ++ x :: post) := fun heq =>
  hxy (dvd_of_dvd_mul_pow P B hc _ post.length (lin_set B t0 pre post x y ▸ lin_dvd_of_ev_eq heq))

theorem H_set_ne (P B : Nat) (hc : Nat.Coprime B P) (pre post : List Int) (x y : Int)
    (hxy : ¬ (P : Int) ∣ y - x) :
    H P B (pre ++ y :: post) ≠ H P B (pre ++ x :: post) :=
  ev_set_ne P B hc 0 pre post x y hxy

theorem H_set_index_ne (P B : Nat) (hc : Nat.Coprime B P) (hs : List Int) (i : Nat) (y : Int) (hi : i < hs.length)
    (hne : ¬ (P : Int) ∣ y - hs[i]) : H P B (hs.set i y) ≠ H P B hs := by
  have hset : hs.set i y = hs.take i ++ y :: hs.drop (i + 1) := by
    rw [List.set_eq_take_append_cons_drop, if_pos hi]
  have h := H_set_ne P B hc (hs.take i) (hs.drop (i + 1)) hs[i] y hne
  rwa [← hset, List.getElem_cons_drop, List.take_append_drop] at h

/-- why the kind and the length of a container matter: they choose the starting accumulator -/
theorem ev_seed_ne (P B : Nat) (hc : Nat.Coprime B P) (t0 t1 : Int) (hs : List Int) (hne : ¬ (P : Int) ∣ t0 - t1) :
    ev P B t0 hs ≠ ev P B t1 hs := fun heq =>
  hne (dvd_of_dvd_mul_pow P B hc _ hs.length (lin_sub B hs t0 t1 ▸ lin_dvd_of_ev_eq heq))

theorem H_swap_ne (P B : Nat) (hc : Nat.Coprime B P) (hc1 : Nat.Coprime (B - 1) P) (hB : 1 ≤ B)
    (pre post : List Int) (a b : Int) (hab : ¬ (P : Int) ∣ a - b) :
    H P B (pre ++ a :: b :: post) ≠ H P B (pre ++ b :: a :: post) := fun heq => by
  have h := dvd_of_dvd_mul_pow P B hc _ post.length (lin_swap B 0 pre post a b ▸ lin_dvd_of_ev_eq heq)
  rw [← Int.natCast_one, ← Int.natCast_sub hB] at h
  exact hab (dvd_of_dvd_mul_coprime hc1 h)

/-- two columns combined with base `BT`: moving `d` from a cell of weight `B^k` in the first column to a cell of weight
    `B^(k+1)` in the second shifts the combination by `d · (BT - B) · B^k`.  Over variables: with the hashes of the columns in the
    place of `fa … fb'` the same identity is several times dearer to check -/
theorem pair_shift (P B BT fa fa' fb fb' d : Int) (k : Nat) (h0 : P ∣ lin BT 0 [fa', fb] - lin BT 0 [fa, fb'])
    (ha : P ∣ (fa' - fa) - d * B ^ k) (hb : P ∣ (fb' - fb) - d * B ^ (k + 1)) : P ∣ d * (BT - B) * B ^ k := by
  have e : d * (BT - B) * B ^ k
      = lin BT 0 [fa', fb] - lin BT 0 [fa, fb'] - (fa' - fa - d * B ^ k) * BT + (fb' - fb - d * B ^ (k + 1)) := by
    simp only [lin, List.foldl_cons, List.foldl_nil]
    grobner
  exact e ▸ Int.dvd_add (Int.dvd_sub h0 (Int.dvd_mul_of_dvd_left ha)) hb

/-- **exchanging two cells on an anti-diagonal of a two-column table changes its fingerprint** when the table combines its
    columns with a base `BT` such that `BT - B` is prime to P (with `BT = B` the two cells carry the same weight and the
    exchange goes unnoticed: the defect repaired in /repo) -/
theorem Htab_antidiag_ne (P B BT : Nat) (hc : Nat.Coprime B P) (hd : Nat.Coprime (BT - B) P) (hle : B ≤ BT)
    (pa sa pb sb : List Int) (x y : Int) (hlen : sb.length = sa.length + 1) (hxy : ¬ (P : Int) ∣ y - x) :
    Htab P B BT [pa ++ y :: sa, pb ++ x :: sb] ≠ Htab P B BT [pa ++ x :: sa, pb ++ y :: sb] := fun heq => by
  have h0 : (P : Int) ∣ lin BT 0 [H P B (pa ++ y :: sa), H P B (pb ++ x :: sb)]
      - lin BT 0 [H P B (pa ++ x :: sa), H P B (pb ++ y :: sb)] := lin_dvd_of_ev_eq heq
  have h := pair_shift P B BT _ _ _ _ (y - x) sa.length h0 (ev_set_cong P B 0 pa sa x y)
    (hlen ▸ ev_set_cong P B 0 pb sb x y)
  rw [← Int.natCast_sub hle] at h
  exact hxy (dvd_of_dvd_mul_coprime hd (dvd_of_dvd_mul_pow P B hc _ _ h))

theorem roll_range (P B t h : Int) (hP : 0 < P) : 0 ≤ roll P B t h ∧ roll P B t h < P :=
  ⟨Int.emod_nonneg _ (Int.ne_of_gt hP), Int.emod_lt_of_pos _ hP⟩

theorem ev_range (P B : Int) (hP : 0 < P) (hs : List Int) (t0 : Int) (h0 : 0 ≤ t0 ∧ t0 < P) :
    0 ≤ ev P B t0 hs ∧ ev P B t0 hs < P := by
  induction hs generalizing t0 with
  | nil => exact h0
  | cons h hs ih => exact ih _ (roll_range P B t0 h hP)

theorem H_range (P B : Int) (hP : 0 < P) (hs : List Int) : 0 ≤ H P B hs ∧ H P B hs < P :=
  ev_range P B hP hs 0 ⟨Int.le_refl 0, hP⟩

theorem eq_of_range_of_dvd_sub {P a b : Int} (ha : 0 ≤ a ∧ a < P) (hb : 0 ≤ b ∧ b < P) (h : P ∣ a - b) : a = b := by
  rw [← Int.emod_eq_of_lt ha.1 ha.2, ← Int.emod_eq_of_lt hb.1 hb.2]
  exact Int.emod_eq_emod_iff_emod_sub_eq_zero.mpr (Int.emod_eq_zero_of_dvd h)

-- From here on `P`, `B` are the source's constants `FP.P`, `FP.B` (casts of `Gen.FP_P`, `Gen.FP_B`), no longer variables.  `hc`, `hP`, `hs`
-- (and `htab`) are closed facts about them, kept as hypotheses so that this file evaluates nothing; `Props/C16` discharges them by kernel evaluation.

theorem seedOf_range (hP : (0 : Int) < P)
    (htab : Gen.fpSeeds.all (fun e => decide (0 ≤ e.2) && decide (e.2 < P)) = true) (k n : Nat) :
    0 ≤ seedOf k n ∧ seedOf k n < P := by
  unfold seedOf
  cases h : Gen.fpSeeds.lookup (k, n) with
  | none => exact ⟨Int.le_refl 0, hP⟩
  | some s =>
    obtain ⟨l₁, l₂, e, -⟩ := List.lookup_eq_some_iff.mp h
    have hm : ((k, n), s) ∈ Gen.fpSeeds := by
      rw [e]
      exact List.mem_append_right _ List.mem_cons_self
    simpa using List.all_eq_true.mp htab ((k, n), s) hm

theorem Elem.hashFrom_eq (es : List Elem) (t : Int) : Elem.hashFrom es t = ev P B t (es.map Elem.hash) := by
  induction es generalizing t with
  | nil => rfl
  | cons e es ih =>
    rw [Elem.hashFrom, ih]
    rfl

theorem Elem.hash_seq (k : Nat) (es : List Elem) :
    (Elem.seq k es).hash = ev P B (seedOf k es.length) (es.map Elem.hash) := by
  rw [Elem.hash, Elem.hashFrom_eq]

theorem Elem.seq_range (hP : (0 : Int) < P) (hs : ∀ k n, 0 ≤ seedOf k n ∧ seedOf k n < P) (k : Nat) (es : List Elem) :
    0 ≤ (Elem.seq k es).hash ∧ (Elem.seq k es).hash < P := by
  rw [Elem.hash_seq]
  exact ev_range P B hP _ _ (hs k es.length)

theorem Elem.setAtList_length (es : List Elem) (i : Nat) (rest : List Nat) (y : Int) :
    (Elem.setAtList es i rest y).length = es.length := by
  induction es generalizing i with
  | nil => rfl
  | cons e es ih => cases i with
    | zero => rfl
    | succ i => exact congrArg (· + 1) (ih i)

/-- a change that shows in the hash of an item (`ih`) shows among the hashes of the items, at one position -/
theorem Elem.setAtList_changes_of (rest : List Nat)
    (ih : ∀ (e : Elem) (x y : Int), e.leafAt rest = some x → ¬ P ∣ y - x → ¬ P ∣ (e.setAt rest y).hash - e.hash)
    (es : List Elem) (i : Nat) (x y : Int) (hx : Elem.leafAtList es i rest = some x) (hne : ¬ P ∣ y - x) :
      ∃ pre post a b, es.map Elem.hash = pre ++ a :: post ∧ (Elem.setAtList es i rest y).map Elem.hash = pre ++ b :: post
        ∧ ¬ P ∣ b - a := by
  induction es generalizing i with
  | nil => cases hx
  | cons e es ihl => cases i with
    | zero => exact ⟨[], es.map Elem.hash, e.hash, (e.setAt rest y).hash, rfl, rfl, ih e x y hx hne⟩
    | succ i =>
      obtain ⟨pre, post, a, b, h1, h2, h3⟩ := ihl i hx
      exact ⟨e.hash :: pre, post, a, b, congrArg (e.hash :: ·) h1, congrArg (e.hash :: ·) h2, h3⟩

/-- at every nesting depth: `path` may pass through any number of containers before it reaches the scalar -/
theorem Elem.setAt_changes (hc : Nat.Coprime Gen.FP_B Gen.FP_P) (hP : (0 : Int) < P)
    (hs : ∀ k n, 0 ≤ seedOf k n ∧ seedOf k n < P) :
    (e : Elem) → (path : List Nat) → (x y : Int) → e.leafAt path = some x → ¬ P ∣ y - x →
      ¬ P ∣ (e.setAt path y).hash - e.hash := by
  intro e path
  -- the path gets shorter at every container passed; container hashes are residues, so "not congruent" is "different"
  induction path generalizing e with
  | nil =>
    intro x y hx hne
    cases e with
    | leaf h =>
      cases hx
      exact hne
    | seq k es => cases hx
  | cons i rest ih =>
    intro x y hx hne hd
    cases e with
    | leaf h => cases hx
    | seq k es =>
      obtain ⟨pre, post, a, b, h1, h2, h3⟩ := Elem.setAtList_changes_of rest ih es i x y hx hne
      have heq : (Elem.seq k (Elem.setAtList es i rest y)).hash = (Elem.seq k es).hash :=
        eq_of_range_of_dvd_sub (Elem.seq_range hP hs _ _) (Elem.seq_range hP hs _ _) hd
      rw [Elem.hash_seq, Elem.hash_seq, h1, h2, Elem.setAtList_length] at heq
      exact ev_set_ne Gen.FP_P Gen.FP_B hc _ pre post a b h3 heq

theorem Elem.setAtList_changes (hc : Nat.Coprime Gen.FP_B Gen.FP_P) (hP : (0 : Int) < P)
    (hs : ∀ k n, 0 ≤ seedOf k n ∧ seedOf k n < P) :
    (es : List Elem) → (i : Nat) → (rest : List Nat) → (x y : Int) → Elem.leafAtList es i rest = some x → ¬ P ∣ y - x →
      ∃ pre post a b, es.map Elem.hash = pre ++ a :: post ∧ (Elem.setAtList es i rest y).map Elem.hash = pre ++ b :: post
        ∧ ¬ P ∣ b - a :=
  fun es i rest => Elem.setAtList_changes_of rest (fun e => Elem.setAt_changes hc hP hs e rest) es i

theorem Elem.kind_ne (hc : Nat.Coprime Gen.FP_B Gen.FP_P) (_hP : (0 : Int) < P)
    (hs : ∀ k n, 0 ≤ seedOf k n ∧ seedOf k n < P) (k1 k2 : Nat) (es : List Elem)
    (h : seedOf k1 es.length ≠ seedOf k2 es.length) : (Elem.seq k1 es).hash ≠ (Elem.seq k2 es).hash := by
  rw [Elem.hash_seq, Elem.hash_seq]
  exact ev_seed_ne Gen.FP_P Gen.FP_B hc _ _ _ (fun hd => h (eq_of_range_of_dvd_sub (hs _ _) (hs _ _) hd))

/-- `x` against `[x]`, `(x,)`, `{x}`.  Stated as a non-congruence, the form `C16.write_changes` asks of two element hashes: it is stronger than `≠`
    (as in `kind_ne`, between two residues) because the hash of a leaf is any integer -/
theorem Elem.wrap_ne (hc : Nat.Coprime Gen.FP_B Gen.FP_P) (hP : (0 : Int) < P)
    (hs : ∀ k n, 0 ≤ seedOf k n ∧ seedOf k n < P) (k : Nat) (e : Elem) (h0 : seedOf k 1 ≠ 0) :
    ¬ P ∣ (Elem.seq k [e]).hash - e.hash := fun hd => by
  rw [Elem.hash_seq] at hd
  -- `ev s [h] - h ≡ (s·B + h) - h`, so P would divide `s·B`, hence the residue `s`
  have h1 : P ∣ seedOf k 1 * B + e.hash - e.hash :=
    (Int.dvd_iff_dvd_of_dvd_sub (ev_sub_lin P B (seedOf k 1) e.hash [e.hash] [])).mp hd
  rw [Int.add_sub_cancel, ← Int.pow_one B] at h1
  have h2 : P ∣ seedOf k 1 - 0 := by
    rw [Int.sub_zero]
    exact dvd_of_dvd_mul_pow Gen.FP_P Gen.FP_B hc _ 1 h1
  exact h0 (eq_of_range_of_dvd_sub (hs k 1) ⟨Int.le_refl 0, hP⟩ h2)

end Serif.FP
