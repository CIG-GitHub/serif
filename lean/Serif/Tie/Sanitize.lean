/-
  Translation tie for `naming._sanitize_user_name` (C17, and the output names of C18): the pipeline — replace runs, strip
  underscores, None when empty, `c` before a leading digit, `_` after an indexed-accessor look-alike, `_` after a reserved name, in
  this order — translated statement by statement from the source (`Serif/Gen/TranslatedNames.lean`), instantiated with the model's
  hand-written primitives (`subRuns` for `re.sub(r'[^a-z0-9_]+', '_', ·)`, `stripU` for `·.strip('_')`, `matchesIndexed` for
  `re.match(r'^.+__\d+$', ·)`, the regenerated reserved-name list), is the model's `sanitizeCore`.  The primitives
  themselves are tied by the correspondence leg of C17 (every generated name is sanitised by both sides).
  Supplementary (see Serif/Tie/Typing.lean).
-/
import Serif.Gen.TranslatedNames
import Serif.Model.Names

namespace Serif.Tie
open Serif Serif.Names Serif.Gen.TN

theorem sanitizeUserName_eq (s : Str) :
    sanitizeUserNameT (subRuns false) stripU isDigit matchesIndexed (fun x => reserved.contains x) s = sanitizeCore s := by
  unfold sanitizeUserNameT sanitizeCore finish guardReserved guardIndexed prefixC
  simp only []
  generalize stripU (subRuns false s) = a
  cases a with
  | nil => simp
  | cons c cs => simp

/-- non-vacuity: a name with punctuation, a leading digit, an indexed look-alike -/
example : sanitizeUserNameT (subRuns false) stripU isDigit matchesIndexed (fun x => reserved.contains x) "2 b!!".toList
    = some "c2_b".toList ∧
    sanitizeUserNameT (subRuns false) stripU isDigit matchesIndexed (fun x => reserved.contains x) "a__1".toList
    = some "a__1_".toList ∧
    sanitizeUserNameT (subRuns false) stripU isDigit matchesIndexed (fun x => reserved.contains x) "!!".toList = none := by
  decide +kernel

end Serif.Tie
