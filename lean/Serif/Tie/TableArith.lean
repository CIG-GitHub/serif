/-
  Translation tie for arithmetic and comparison on tables (C05, C18): `Table._table_elementwise_operation`, the fourteen binary
  dunders `__add__ … __rpow__` (which operator, which operand order), the four unary dunders and `Table._elementwise_compare`,
  translated from the source (`Serif/Gen/TranslatedTableArith.lean`).  The translated function is generic in the column type `κ`,
  the operand type `ω`, the result-column type `ρ` and the table type `τ`; the value model of C05 (`tableScalar`,
  `tableScalarRefl`, `tableTable`, `tableUnary`; the column operation is the model's `vectorBinary`) and the name / dtype model of C18
  (`tarithO`, `tarithV`, `tarithT`) are two instantiations of its `Ops` (`vecOps`, `xOps`).  `tableElementwiseOperationT_other` /
  `_table` are its model-independent reading, one `tupleGen` per branch; everything else follows from them.  The value model has no
  `Table._elementwise_compare`: the additional definition `tableCompare` states it on the model's vocabulary.
  Supplementary (see Serif/Tie/Typing.lean).
-/
import Serif.Gen.TranslatedTableArith
import Serif.Gen.Translated
import Serif.Props.C05
import Serif.Props.C18
import Serif.Tie.Names

namespace Serif.Tie
open Serif Serif.Gen.TAr

namespace TableArith

variable {α β γ κ ω ρ τ : Type}

theorem tupleGen_eq_mapRes (f : α → Except Err β) (l : List α) : tupleGen f l = Serif.Vec.mapRes f l := by
  induction l with
  | nil => rfl
  | cons a as ih =>
    simp only [tupleGen, Serif.Vec.mapRes, ih]
    cases f a with
    | error e => rfl
    | ok b => cases Serif.Vec.mapRes f as <;> rfl

theorem tupleGen_congr {f g : α → Except Err β} {l : List α} (h : ∀ a, f a = g a) : tupleGen f l = tupleGen g l := by
  have : f = g := funext h
  rw [this]

theorem tupleGen_ok_length {f : α → Except Err β} {l : List α} {r : List β} (h : tupleGen f l = .ok r) :
    r.length = l.length := by
  rw [tupleGen_eq_mapRes] at h
  exact Serif.Vec.mapRes_ok_length h

/-- a loop that rewrites every result with its source element, run after the generator, is the generator of the rewritten results
    (`k`: what is done with the list afterwards) -/
theorem tupleGen_zipWith {δ : Type} (f : α → Except Err β) (g : α → β → γ) (l : List α) (k : List γ → Except Err δ) :
    (match tupleGen f l with
     | .error e => (.error e : Except Err δ)
     | .ok rs => k (List.zipWith g l rs))
    = match tupleGen (fun a => match f a with
                              | .error e => .error e
                              | .ok b => .ok (g a b)) l with
      | .error e => .error e
      | .ok rs => k rs := by
  induction l generalizing k with
  | nil => rfl
  | cons a as ih =>
    simp only [tupleGen]
    cases f a with
    | error e => rfl
    | ok b =>
      have ih' := ih (fun rs => k (g a b :: rs))
      -- once both generators are split into their outcomes the goal is `ih'` (in the two mixed cases as well)
      revert ih'
      cases tupleGen f as <;> cases tupleGen _ as <;> exact id

/-- `hT`: the value model's `Table` -/
theorem tupleGen_Table {σ : Type} (O : Ops κ ω ρ (List ρ)) (hT : ∀ cs, O.Table cs = .ok cs) (g : σ → Except Err ρ) (l : List σ) :
    (match tupleGen g l with
     | .error e => .error e
     | .ok cs => O.Table cs) = Serif.Vec.mapRes g l := by
  rw [tupleGen_eq_mapRes]
  cases Serif.Vec.mapRes g l with
  | error e => rfl
  | ok cs => exact hT cs

theorem enumerateFrom_length (k : Nat) (l : List α) : (enumerateFrom k l).length = l.length := by
  induction l generalizing k with
  | nil => rfl
  | cons a as ih => simp [enumerateFrom, ih]

theorem enumerateFrom_map_snd (k : Nat) (l : List α) : (enumerateFrom k l).map (·.2) = l := by
  induction l generalizing k with
  | nil => rfl
  | cons a as ih => simp [enumerateFrom, ih]

/-- what the non-Table branch does to one column: the column operation, then `_name` / `_wild` put back from the source column -/
def restoredCol (O : Ops κ ω ρ τ) (f : κ → ω → Except Err ρ) (o : ω) (c : κ) : Except Err ρ :=
  match f c o with
  | .error e => .error e
  | .ok r => .ok (O.set_wild (O.wild c) (O.set_name (O.name c) r))

/-- what the table-with-table loop does to one pair of columns: the column operation, the name given by
    `_resolve_binary_name`, `_wild = False` -/
def pairedCol (O : Ops κ ω ρ τ) (f : κ → ω → Except Err ρ) (p : κ × κ) : Except Err ρ :=
  match f p.1 (O.as_arg p.2) with
  | .error e => .error e
  | .ok r => .ok (O.set_wild false (O.set_name (O.resolve_binary_name (O.name p.1) (O.name p.2)).1 r))

theorem tableElementwiseOperationT_other (O : Ops κ ω ρ τ) (f : κ → ω → Except Err ρ) (cols : List κ) (o : ω) :
    tableElementwiseOperationT O cols (.other o) f =
      match tupleGen (restoredCol O f o) cols with
      | .error e => .error e
      | .ok rs => O.Table rs :=
  tupleGen_zipWith (fun c => f c o) (fun c r => O.set_wild (O.wild c) (O.set_name (O.name c) r)) cols O.Table

/-- the loop `for idx, (left, right) in enumerate(zip(…))` appends one `pairedCol` per pair, in order, and stops at the first
    column operation that raises; the warning list has no influence on the columns (`k`: what is done with them afterwards) -/
theorem tableTable_loop {δ : Type} (O : Ops κ ω ρ τ) (f : κ → ω → Except Err ρ) (k : List ρ → Except Err δ)
    (items : List (Nat × κ × κ)) :
    ∀ (acc : List ρ) (w : List Warning),
      (match items.foldlM (tableTableStepT O f) (acc, w) with
       | .error e => (.error e : Except Err δ)
       | .ok s => k s.1)
      = match tupleGen (pairedCol O f) (items.map (·.2)) with
        | .error e => .error e
        | .ok rs => k (acc ++ rs) := by
  induction items with
  | nil => intro acc w; simp [tupleGen, pure, Except.pure]
  | cons it rest ih =>
    intro acc w
    obtain ⟨idx, l, r⟩ := it
    simp only [List.foldlM_cons, List.map_cons, tupleGen, pairedCol]
    cases hf : f l (O.as_arg r) with
    | error e => simp [tableTableStepT, hf, bind, Except.bind]
    | ok c =>
      simp only [tableTableStepT, hf, bind, Except.bind]
      rw [ih]
      cases tupleGen (pairedCol O f) (rest.map (·.2)) with
      | error e => rfl
      | ok rs => simp

theorem tableElementwiseOperationT_table (O : Ops κ ω ρ τ) (f : κ → ω → Except Err ρ) (a b : List κ) :
    tableElementwiseOperationT O a (.table b) f =
      if a.length ≠ b.length then .error (O.exc .ValueError)
      else match tupleGen (pairedCol O f) (a.zip b) with
        | .error e => .error e
        | .ok rs => O.Table rs := by
  have h := tableTable_loop O f O.Table (enumerate (a.zip b)) [] []
  rw [enumerate, enumerateFrom_map_snd] at h
  simp only [List.nil_append] at h
  unfold tableElementwiseOperationT
  simp only [bne_iff_ne, ne_eq, ite_not, enumerate]
  split
  · rw [← h]
    cases List.foldlM (tableTableStepT O f) ([], []) (enumerateFrom 0 (a.zip b)) <;> rfl
  · rfl

/-- every binary dunder hands its own operator, in its own operand order, to `_table_elementwise_operation` -/
theorem tableBinaryT_eq (O : Ops κ ω ρ τ) (colop : Serif.Vec.BinOp → Bool → κ → ω → Except Err ρ) (o : Serif.Vec.BinOp)
    (refl : Bool) (cols : List κ) (other : Operand κ ω) :
    tableBinaryT O colop o refl cols other = tableElementwiseOperationT O cols other (colop o refl) := by
  cases o <;> cases refl <;> rfl

end TableArith

open TableArith

section vec
variable {α β : Type}

/-- the value model's code of the exception classes (`ValueError` and `SerifValueError` are both `.value`, …) -/
def vecExc : PyExc → Err
  | .ValueError => .value | .TypeError => .type | .IndexError => .index | .KeyError => .key
  | .SerifValueError => .value | .SerifTypeError => .type | .SerifKeyError => .key | .SerifIndexError => .index

/-- the translated functions read on the value model: a column is a `Vec α` (elements and dtype), a result column is its elements,
    a column of the other table is handed to the column operation as `Operand.vec`, names and `_wild` are not carried, `Table(cols)`
    is the list of columns.  `rbn` (`_resolve_binary_name`) is arbitrary: it cannot influence values. -/
def vecOps (rbn : Option String → Option String → Option String × Option String) :
    Ops (Serif.Vec.Vec α) (Serif.Vec.Operand α) (Serif.Vec.Col β) (List (Serif.Vec.Col β)) :=
  { name := fun _ => none, wild := fun _ => false, set_name := fun _ r => r, set_wild := fun _ r => r,
    as_arg := fun c => .vec c.data c.dtype, Table := fun cols => .ok cols, resolve_binary_name := rbn, exc := vecExc }

variable (rbn : Option String → Option String → Option String × Option String)

/-- non-Table operand, any column operation `f` (it may raise): one `f(col, other)` per column, in column order, the first
    exception aborts -/
theorem tableElementwiseOperationT_vec_other (f : Serif.Vec.Vec α → Serif.Vec.Operand α → Res (Serif.Vec.Col β))
    (cols : List (Serif.Vec.Vec α)) (other : Serif.Vec.Operand α) :
    tableElementwiseOperationT (vecOps rbn) cols (.other other) f = Serif.Vec.mapRes (fun c => f c other) cols := by
  rw [tableElementwiseOperationT_other, tupleGen_congr (g := fun c => f c other)]
  · exact tupleGen_Table (vecOps rbn) (fun _ => rfl) _ cols
  · intro c
    unfold restoredCol
    cases f c other <;> rfl

/-- Table operand, any column operation: width check (ValueError), then one `f(left, right)` per pair of columns -/
theorem tableElementwiseOperationT_vec_table (f : Serif.Vec.Vec α → Serif.Vec.Operand α → Res (Serif.Vec.Col β))
    (a b : List (Serif.Vec.Vec α)) :
    tableElementwiseOperationT (vecOps rbn) a (.table b) f =
      if a.length ≠ b.length then .error .value
      else Serif.Vec.mapRes (fun p => f p.1 (.vec p.2.data p.2.dtype)) (a.zip b) := by
  rw [tableElementwiseOperationT_table, tupleGen_congr (g := fun p => f p.1 (.vec p.2.data p.2.dtype))]
  · split
    · rfl
    · exact tupleGen_Table (vecOps rbn) (fun _ => rfl) _ (a.zip b)
  · intro p
    unfold pairedCol
    rw [show (vecOps (β := β) rbn).as_arg p.2 = .vec p.2.data p.2.dtype from rfl]
    cases f p.1 (.vec p.2.data p.2.dtype) <;> rfl

/-- **`table <o> other`** (`__add__ … __pow__`, non-Table operand) is the model's `tableScalar`, **`other <o> table`**
    (`__radd__ … __rpow__`) its `tableScalarRefl` -/
theorem tableBinaryT_eq_tableScalar (S : Serif.Vec.Sem α) (o : Serif.Vec.BinOp) (refl : Bool) (cols : List (Serif.Vec.Vec α))
    (other : Serif.Vec.Operand α) :
    tableBinaryT (vecOps rbn) (Serif.Vec.vectorBinary S) o refl cols (.other other)
      = if refl then Serif.Vec.tableScalarRefl S o cols other else Serif.Vec.tableScalar S o cols other := by
  rw [tableBinaryT_eq, tableElementwiseOperationT_vec_other]
  cases refl <;> rfl

/-- **`table <o> table`** is the model's `tableTable` (width mismatch: ValueError; otherwise column by column) -/
theorem tableBinaryT_eq_tableTable (S : Serif.Vec.Sem α) (o : Serif.Vec.BinOp) (a b : List (Serif.Vec.Vec α)) :
    tableBinaryT (vecOps rbn) (Serif.Vec.vectorBinary S) o false a (.table b) = Serif.Vec.tableTable S o a b := by
  rw [tableBinaryT_eq, tableElementwiseOperationT_vec_table]; rfl

/-- the column-level unary operators on the value model: each is the broadcast of an element operation that may raise -/
def vecUnary (neg pos abs invert : α → Res β) : UnaryOps (Serif.Vec.Vec α) (Serif.Vec.Col β) :=
  { neg := fun c => Serif.Vec.broadcast neg c.data, pos := fun c => Serif.Vec.broadcast pos c.data,
    abs := fun c => Serif.Vec.broadcast abs c.data, invert := fun c => Serif.Vec.broadcast invert c.data }

/-- **`-table`, `+table`, `abs(table)`, `~table`** are the model's `tableUnary` of the respective element operation -/
theorem tableUnaryT_eq_tableUnary (neg pos abs invert : α → Res β) (cols : List (Serif.Vec.Vec α)) :
    table__neg__T (vecOps rbn) (vecUnary neg pos abs invert) cols = Serif.Vec.tableUnary neg cols ∧
    table__pos__T (vecOps rbn) (vecUnary neg pos abs invert) cols = Serif.Vec.tableUnary pos cols ∧
    table__abs__T (vecOps rbn) (vecUnary neg pos abs invert) cols = Serif.Vec.tableUnary abs cols ∧
    table__invert__T (vecOps rbn) (vecUnary neg pos abs invert) cols = Serif.Vec.tableUnary invert cols := by
  exact ⟨tupleGen_Table (vecOps rbn) (fun _ => rfl) _ cols, tupleGen_Table (vecOps rbn) (fun _ => rfl) _ cols,
    tupleGen_Table (vecOps rbn) (fun _ => rfl) _ cols, tupleGen_Table (vecOps rbn) (fun _ => rfl) _ cols⟩

/-- the C05 theorems, on the translated functions: column `j` of `table <o> other` / `other <o> table` is the vector operation on
    column `j`; of `table <o> table` it is `left[j] <o> right[j]`; different widths are refused -/
theorem translated_table_is_columnwise {S : Serif.Vec.Sem α} {o : Serif.Vec.BinOp} {refl : Bool} {cols : List (Serif.Vec.Vec α)}
    {other : Serif.Vec.Operand α} {R : List (Serif.Vec.Col α)}
    (h : tableBinaryT (vecOps rbn) (Serif.Vec.vectorBinary S) o refl cols (.other other) = .ok R) :
    R.length = cols.length ∧
    ∀ (j : Nat) (c : Serif.Vec.Vec α), cols[j]? = some c →
      ∃ rc, R[j]? = some rc ∧ Serif.Vec.vectorBinary S o refl c other = .ok rc := by
  rw [tableBinaryT_eq_tableScalar] at h
  cases refl with
  | false => exact Serif.C05.table_is_columnwise h
  | true => exact Serif.C05.table_reflected_is_columnwise h

theorem translated_table_table_is_columnwise {S : Serif.Vec.Sem α} {o : Serif.Vec.BinOp} {a b : List (Serif.Vec.Vec α)}
    {R : List (Serif.Vec.Col α)}
    (h : tableBinaryT (vecOps rbn) (Serif.Vec.vectorBinary S) o false a (.table b) = .ok R) :
    a.length = b.length ∧ R.length = a.length ∧
    ∀ (j : Nat) (ca cb : Serif.Vec.Vec α), a[j]? = some ca → b[j]? = some cb →
      ∃ rc, R[j]? = some rc ∧ Serif.Vec.vectorBinary S o false ca (.vec cb.data cb.dtype) = .ok rc := by
  rw [tableBinaryT_eq_tableTable] at h; exact Serif.C05.table_table_is_columnwise h

theorem translated_table_width_mismatch_errors {S : Serif.Vec.Sem α} {o : Serif.Vec.BinOp} {a b : List (Serif.Vec.Vec α)}
    (h : a.length ≠ b.length) :
    tableBinaryT (vecOps rbn) (Serif.Vec.vectorBinary S) o false a (.table b) = .error .value := by
  rw [tableBinaryT_eq_tableTable]; exact Serif.C05.table_width_mismatch_errors h

end vec

section expr
open Serif.X

/-- the second argument of the column operation in the name model: a Vector (a column of the other table, or a plain Vector
    operand) or a scalar / list -/
inductive XArg where
  | vec (b : AVec)
  | oth (o : Other)

/-- which of the model's three arithmetic code paths a dunder of `Table` reaches on each column:
    `col + x` is `Vector.__add__`, `x + col` is `Vector.__radd__`, everything else goes to `_elementwise_operation` -/
def aopOf : Serif.Vec.BinOp → Bool → AOp
  | .add, false => .add
  | .add, true => .radd
  | _, _ => .gen

/-- the column operation of the name model.  Its oracle is indexed by the position of the column in the table, so a column is the
    pair (position, abstract vector): the translated function is run on `enumerate cs` -/
def xcol (orc : Oracle) (site : Nat) (op : AOp) (c : Nat × AVec) : XArg → Res AVec
  | .vec b => arithVV orc site c.1 op c.2 b
  | .oth o => arithVO orc site c.1 op c.2 o

/-- the translated functions read on the name model: `_name` is the `name` field, `_wild` is not carried, `Table(cols)` is the
    model's `tableOf`, `_resolve_binary_name` is the function translated from the source (Serif/Gen/Translated.lean, tie
    `resolveBinaryName_eq`) paired with an arbitrary warning case, every exception class raised here is `.other` -/
def xOps (warn : Option String → Option String → Option String) : Ops (Nat × AVec) XArg AVec Obj :=
  { name := fun c => c.2.name, wild := fun _ => false, set_name := fun n r => { r with name := n }, set_wild := fun _ r => r,
    as_arg := fun c => .vec c.2, Table := tableOf,
    resolve_binary_name := fun l r => (Serif.Gen.T.resolveBinaryNameT l r, warn l r), exc := fun _ => .other }

variable (warn : Option String → Option String → Option String)

theorem mapIdxM_eq_tupleGen {β : Type} (g : Nat → AVec → Res β) (cs : List AVec) :
    ∀ k, mapIdxM g k cs = tupleGen (fun p => g p.1 p.2) (enumerateFrom k cs) := by
  induction cs with
  | nil => intro k; rfl
  | cons c cs ih =>
    intro k
    simp only [mapIdxM, enumerateFrom, tupleGen, ih]
    cases g k c with
    | error e => rfl
    | ok y => cases tupleGen (fun p => g p.1 p.2) (enumerateFrom (k + 1) cs) <;> rfl

/-- a non-Table operand of either kind: the column operation at every position, the column's name put back, `Table(...)` — at
    `.oth o` (a scalar or a list) this is the model's `tarithO`, at `.vec b` (a plain Vector is not a Table: the same branch) `tarithV` -/
theorem tableElementwiseOperationT_eq_mapIdxM (orc : Oracle) (site : Nat) (op : AOp) (cs : List AVec) (arg : XArg) :
    tableElementwiseOperationT (xOps warn) (enumerate cs) (.other arg) (xcol orc site op) =
      match mapIdxM (fun j c => match xcol orc site op (j, c) arg with
          | .ok r => Except.ok { r with name := c.name }
          | .error e => .error e) 0 cs with
      | .error e => .error e
      | .ok rs => tableOf rs := by
  have hcol : ∀ p : Nat × AVec, restoredCol (xOps warn) (xcol orc site op) arg p =
      match xcol orc site op (p.1, p.2) arg with
      | .ok r => Except.ok { r with name := p.2.name }
      | .error e => .error e := by
    intro p
    unfold restoredCol
    cases xcol orc site op p arg <;> rfl
  rw [tableElementwiseOperationT_other, mapIdxM_eq_tupleGen, tupleGen_congr hcol, enumerate]
  cases tupleGen _ (enumerateFrom 0 cs) <;> rfl

theorem zipArith_eq_tupleGen (orc : Oracle) (site : Nat) (op : AOp) (ls : List AVec) :
    ∀ (rs : List AVec) (j k : Nat),
      zipArith orc site op j ls rs =
        tupleGen (pairedCol (xOps warn) (xcol orc site op)) ((enumerateFrom j ls).zip (enumerateFrom k rs)) := by
  induction ls with
  | nil => intro rs j k; simp [zipArith, enumerateFrom, tupleGen]
  | cons l ls ih =>
    intro rs j k
    cases rs with
    | nil => simp [zipArith, enumerateFrom, tupleGen]
    | cons r rs =>
      simp only [zipArith, enumerateFrom, List.zip_cons_cons, tupleGen, pairedCol]
      rw [ih rs (j + 1) (k + 1)]
      have h2 : xcol orc site op (j, l) ((xOps warn).as_arg (k, r)) = arithVV orc site j op l r := rfl
      have h3 : ((xOps warn).resolve_binary_name ((xOps warn).name (j, l)) ((xOps warn).name (k, r))).1
          = resolveBinaryName l.name r.name := resolveBinaryName_eq l.name r.name
      rw [h2, h3]
      cases arithVV orc site j op l r with
      | error e => rfl
      | ok x =>
        dsimp only
        cases tupleGen (pairedCol (xOps warn) (xcol orc site op))
            ((enumerateFrom (j + 1) ls).zip (enumerateFrom (k + 1) rs)) <;> rfl

/-- **`table <op> table`** (width check, one column per pair named by `_resolve_binary_name`, `Table(...)`) is the model's `tarithT` -/
theorem tableElementwiseOperationT_eq_tarithT (orc : Oracle) (site : Nat) (op : AOp) (ls rs : List AVec) :
    tableElementwiseOperationT (xOps warn) (enumerate ls) (.table (enumerate rs)) (xcol orc site op) = tarithT orc site op ls rs := by
  rw [tableElementwiseOperationT_table]
  unfold tarithT
  rw [zipArith_eq_tupleGen warn orc site op ls rs 0 0]
  simp only [enumerate, enumerateFrom_length]
  by_cases hw : ls.length = rs.length
  · simp only [hw, ne_eq, not_true_eq_false, if_false]
    cases tupleGen (pairedCol (xOps warn) (xcol orc site op)) ((enumerateFrom 0 ls).zip (enumerateFrom 0 rs)) <;> rfl
  · simp only [ne_eq, hw, not_false_eq_true, if_true]; rfl

/-- the dunders on the name model: `table <o> other` / `other <o> table` / `table <o> table` are `tarithO` / `tarithV` / `tarithT`
    with the code path `aopOf o refl` -/
theorem tableBinaryT_eq_tarith (orc : Oracle) (site : Nat) (o : Serif.Vec.BinOp) (refl : Bool) (cs ds : List AVec) (other : Other)
    (b : AVec) :
    tableBinaryT (xOps warn) (fun o refl => xcol orc site (aopOf o refl)) o refl (enumerate cs) (.other (.oth other))
      = tarithO orc site (aopOf o refl) cs other ∧
    tableBinaryT (xOps warn) (fun o refl => xcol orc site (aopOf o refl)) o refl (enumerate cs) (.other (.vec b))
      = tarithV orc site (aopOf o refl) cs b ∧
    tableBinaryT (xOps warn) (fun o refl => xcol orc site (aopOf o refl)) o refl (enumerate cs) (.table (enumerate ds))
      = tarithT orc site (aopOf o refl) cs ds := by
  refine ⟨?_, ?_, ?_⟩ <;> rw [tableBinaryT_eq]
  · exact tableElementwiseOperationT_eq_mapIdxM warn orc site _ cs (.oth other)
  · exact tableElementwiseOperationT_eq_mapIdxM warn orc site _ cs (.vec b)
  · exact tableElementwiseOperationT_eq_tarithT warn orc site _ cs ds

/-- C18's `table_arith_names` on the translated function: whatever `table <o> scalar-or-list` returns carries exactly the left
    table's column names, in order -/
theorem translated_table_scalar_names (orc : Oracle) (site : Nat) (o : Serif.Vec.BinOp) (refl : Bool) (cs : List AVec)
    (other : Other) (T : Obj)
    (h : tableBinaryT (xOps warn) (fun o refl => xcol orc site (aopOf o refl)) o refl (enumerate cs) (.other (.oth other)) = .ok T) :
    T.names = .tab (cs.map (·.name)) := by
  rw [(tableBinaryT_eq_tarith warn orc site o refl cs [] other default).1] at h
  have hs : step orc (.tarithO (aopOf o refl) site other) [.tab cs] = .ok T := h
  have := Serif.C18.step_names orc _ _ _ hs
  rw [this]
  exact (Serif.C18.table_arith_names orc.san (aopOf o refl) site other (cs.map (·.name)) [] (nrowsOf cs) 0).1

/-- … and whatever `table <o> table` returns carries, column by column, `_resolve_binary_name(left name, right name)` -/
theorem translated_table_table_names (orc : Oracle) (site : Nat) (o : Serif.Vec.BinOp) (refl : Bool) (cs ds : List AVec) (T : Obj)
    (h : tableBinaryT (xOps warn) (fun o refl => xcol orc site (aopOf o refl)) o refl (enumerate cs) (.table (enumerate ds)) = .ok T) :
    T.names = .tab (zipResolve (cs.map (·.name)) (ds.map (·.name))) := by
  rw [(tableBinaryT_eq_tarith warn orc site o refl cs ds default default).2.2] at h
  have hs : step orc (.tarith (aopOf o refl) site) [.tab cs, .tab ds] = .ok T := h
  have := Serif.C18.step_names orc _ _ _ hs
  rw [this]
  exact (Serif.C18.table_arith_names orc.san (aopOf o refl) site default (cs.map (·.name)) (ds.map (·.name))
    (nrowsOf cs) (nrowsOf ds)).2

/-- C18's `resolve_keeps_left_iff` on the name the translated loop assigns: the left name is kept exactly when the right name is
    absent or equal, otherwise the column is unnamed -/
theorem translated_resolve_keeps_left_iff (l r : Option String) :
    ((xOps warn).resolve_binary_name l r).1 = (if r = none ∨ r = l then l else none) := by
  show Serif.Gen.T.resolveBinaryNameT l r = _
  rw [resolveBinaryName_eq]; exact Serif.C18.resolve_keeps_left_iff l r

end expr

section compare
variable {α β γ κ σ ω ρ τ : Type}

/-- after the explicit width / row-count check the strict zip cannot fail: it is `mapRes` over the zipped lists -/
theorem tupleZipStrict_eq_mapRes (ve : Err) (f : α → β → Except Err γ) :
    ∀ (a : List α) (b : List β), a.length = b.length →
      tupleZipStrict ve f a b = Serif.Vec.mapRes (fun p => f p.1 p.2) (a.zip b) := by
  intro a
  induction a with
  | nil => intro b hb; cases b with
    | nil => rfl
    | cons y ys => simp at hb
  | cons x xs ih =>
    intro b hb
    cases b with
    | nil => simp at hb
    | cons y ys =>
      have hl : xs.length = ys.length := by simpa using hb
      simp only [tupleZipStrict, List.zip_cons_cons, Serif.Vec.mapRes, ih ys hl]
      cases f x y with
      | error e => rfl
      | ok c => cases Serif.Vec.mapRes (fun p => f p.1 p.2) (xs.zip ys) <;> rfl

/-- ADDITIONAL DEFINITION (the value model has no table comparison): `Table._elementwise_compare` on the model's vocabulary.
    A Vector / Table operand: width check (ValueError), then `op(col_j, other_col_j)` per pair of columns; another iterable:
    row-count check, then `op(row_i, item_i)` per row and `.T`; a scalar: `op(col_j, other)` per column.  `mapRes` is the model's
    sequencing of a generator inside `tuple(...)` (the first exception aborts). -/
def tableCompare (C : CmpOps κ σ ω ρ τ) (cols rows : List κ) : CmpOperand κ σ ω → Except Err τ
  | .vector b =>
    if cols.length ≠ b.length then .error (C.exc .ValueError)
    else match Serif.Vec.mapRes (fun p => C.op_cols p.1 p.2) (cols.zip b) with
      | .error e => .error e
      | .ok rs => C.Vector rs
  | .iterable items =>
    if rows.length ≠ items.length then .error (C.exc .ValueError)
    else match Serif.Vec.mapRes (fun p => C.op_row p.1 p.2) (rows.zip items) with
      | .error e => .error e
      | .ok rs =>
        match C.Vector rs with
        | .error e => .error e
        | .ok v => C.transpose v
  | .scalar s =>
    match Serif.Vec.mapRes (fun x => C.op_scalar x s) cols with
    | .error e => .error e
    | .ok rs => C.Vector rs

/-- the transcribed `Table._elementwise_compare` is `tableCompare` (`len(self)` is the number of rows) -/
theorem tableElementwiseCompareT_eq (C : CmpOps κ σ ω ρ τ) (cols rows : List κ) (other : CmpOperand κ σ ω) :
    tableElementwiseCompareT C cols rows rows.length other = tableCompare C cols rows other := by
  cases other with
  | vector b =>
    unfold tableElementwiseCompareT tableCompare
    by_cases hw : cols.length = b.length
    · simp only [hw, bne_self_eq_false, Bool.false_eq_true, if_false, ne_eq, not_true_eq_false]
      rw [tupleZipStrict_eq_mapRes _ _ _ _ hw]
      cases Serif.Vec.mapRes (fun p => C.op_cols p.1 p.2) (cols.zip b) <;> rfl
    · simp [hw]
  | iterable items =>
    unfold tableElementwiseCompareT tableCompare
    by_cases hw : rows.length = items.length
    · simp only [hw, bne_self_eq_false, Bool.false_eq_true, if_false, ne_eq, not_true_eq_false]
      rw [tupleZipStrict_eq_mapRes _ _ _ _ hw]
      cases Serif.Vec.mapRes (fun p => C.op_row p.1 p.2) (rows.zip items) with
      | error e => rfl
      | ok rs => dsimp only; cases C.Vector rs <;> rfl
    · simp [hw]
  | scalar s =>
    unfold tableElementwiseCompareT tableCompare
    simp only [tupleGen_eq_mapRes]
    cases Serif.Vec.mapRes (fun x => C.op_scalar x s) cols <;> rfl

/-- C05-style reading of the Vector / Table branch (with `Vector(tuple)` the identity on the list of result columns): equal widths,
    and column `j` of the result is `op(self column j, other column j)` -/
theorem tableCompare_columnwise (C : CmpOps κ σ ω ρ (List ρ)) (hV : ∀ rs, C.Vector rs = .ok rs) {cols rows b : List κ} {R : List ρ}
    (h : tableElementwiseCompareT C cols rows rows.length (.vector b) = .ok R) :
    cols.length = b.length ∧ R.length = cols.length ∧
    ∀ (j : Nat) (ca cb : κ), cols[j]? = some ca → b[j]? = some cb → ∃ rc, R[j]? = some rc ∧ C.op_cols ca cb = .ok rc := by
  rw [tableElementwiseCompareT_eq] at h
  unfold tableCompare at h
  by_cases hw : cols.length = b.length
  · simp only [hw, ne_eq, not_true_eq_false, if_false] at h
    cases hm : Serif.Vec.mapRes (fun p => C.op_cols p.1 p.2) (cols.zip b) with
    | error e => rw [hm] at h; cases h
    | ok rs =>
      rw [hm] at h
      have hR : rs = R := by simpa [hV] using h
      subst hR
      obtain ⟨hlen, hcol⟩ := Serif.Vec.mapRes_ok_pointwise hm
      refine ⟨hw, ?_, fun j ca cb hca hcb => hcol j (ca, cb) (List.getElem?_zip_eq_some.mpr ⟨hca, hcb⟩)⟩
      rw [hlen, List.length_zip, ← hw, Nat.min_self]
  · simp [hw] at h

/-- different widths are refused with ValueError -/
theorem tableCompare_width_mismatch (C : CmpOps κ σ ω ρ τ) {cols rows b : List κ} (hw : cols.length ≠ b.length) :
    tableElementwiseCompareT C cols rows rows.length (.vector b) = .error (C.exc .ValueError) := by
  rw [tableElementwiseCompareT_eq]; simp [tableCompare, hw]

end compare

section examples
open Serif.Vec

/-- Python's integer arithmetic as far as the examples need it (division by zero raises) -/
def exSem : Sem Int :=
  { py := fun o a b => match o with
      | .add => .ok (a + b) | .sub => .ok (a - b) | .mul => .ok (a * b)
      | .floordiv => if b = 0 then .error .other else .ok (a / b)
      | _ => .error .type,
    days := fun a b => .ok (a + b), isInt := fun _ => true }

def exCols : List (Vec Int) := [⟨[some 1, none, some 3], some ⟨.int, true⟩⟩, ⟨[some 10, some 20, some 30], some ⟨.int, false⟩⟩]
def exRbn : Option String → Option String → Option String × Option String := fun l r => (Serif.Gen.T.resolveBinaryNameT l r, none)

-- table - 1 and 1 - table: column by column, operand order respected, None stays None
example : tableBinaryT (vecOps exRbn) (vectorBinary exSem) .sub false exCols (.other (.scalar 1))
    = .ok [[some 0, none, some 2], [some 9, some 19, some 29]] := by decide
example : tableBinaryT (vecOps exRbn) (vectorBinary exSem) .sub true exCols (.other (.scalar 1))
    = .ok [[some 0, none, some (-2)], [some (-9), some (-19), some (-29)]] := by decide
-- table * list: the same list meets every column
example : tableBinaryT (vecOps exRbn) (vectorBinary exSem) .mul false exCols (.other (.seq [some 2, some 3, some 4]))
    = .ok [[some 2, none, some 12], [some 20, some 60, some 120]] := by decide
-- table + table pairs the columns; a table of another width is refused; a raising cell aborts
example : tableBinaryT (vecOps exRbn) (vectorBinary exSem) .add false exCols (.table exCols)
    = .ok [[some 2, none, some 6], [some 20, some 40, some 60]] := by decide
example : tableBinaryT (vecOps exRbn) (vectorBinary exSem) .add false exCols (.table (exCols.take 1)) = .error .value := by decide
example : tableBinaryT (vecOps exRbn) (vectorBinary exSem) .floordiv false exCols (.other (.scalar 0)) = .error .other := by decide
example : table__neg__T (vecOps exRbn) (vecUnary (fun a : Int => .ok (-a)) (fun a => .ok a) (fun a => .ok a.natAbs) (fun a => .ok (-a - 1))) exCols
    = .ok [[some (-1), none, some (-3)], [some (-10), some (-20), some (-30)]] := by decide

open Serif.X in
/-- an oracle that answers every binary operation with the left element's type -/
def exOracle : Oracle := { silent with bin := fun _ _ _ x _ => .ok x }

open Serif.X in
def exTab (names : List (Option String)) : List AVec := names.map (fun n => mkVec [.ty .int, .none] none n)

-- names: table + scalar keeps them; table + table keeps the left name iff the right one is absent or equal
open Serif.X in
example : (match tableBinaryT (xOps (fun _ _ => none)) (fun o refl => xcol exOracle 0 (aopOf o refl)) .add false
              (enumerate (exTab [some "a", none, some "c"])) (.other (.oth (.scalar (.ty .int)))) with
           | .ok T => some T.names | .error _ => none) = some (.tab [some "a", none, some "c"]) := by decide
open Serif.X in
example : (match tableBinaryT (xOps (fun _ _ => some "mismatch")) (fun o refl => xcol exOracle 0 (aopOf o refl)) .mul false
              (enumerate (exTab [some "a", some "b", none, some "d"])) (.table (enumerate (exTab [some "a", some "x", some "y", none]))) with
           | .ok T => some T.names | .error _ => none) = some (.tab [some "a", none, none, some "d"]) := by decide
-- the hypotheses of `translated_table_scalar_names` / `translated_table_table_names` are satisfiable
open Serif.X in
example : ∃ T, tableBinaryT (xOps (fun _ _ => none)) (fun o refl => xcol exOracle 0 (aopOf o refl)) .add true
              (enumerate (exTab [some "a", none])) (.other (.oth (.scalar (.ty .int)))) = .ok T := ⟨_, rfl⟩

-- comparison: table == table column by column (here on lists of Int with `==` per column pair), width mismatch refused
def exCmp : CmpOps (List Int) Int Int Bool (List Bool) :=
  { op_cols := fun x y => .ok (x == y), op_row := fun x y => .ok (x.all (· == y)), op_scalar := fun x y => .ok (x.all (· == y)),
    Vector := fun rs => .ok rs, transpose := fun v => .ok v, exc := vecExc }
example : tableElementwiseCompareT exCmp [[1, 2], [3, 4]] [[1, 3], [2, 4]] 2 (.vector [[1, 2], [0, 4]]) = .ok [true, false] := by decide
example : tableElementwiseCompareT exCmp [[1, 2], [3, 4]] [[1, 3], [2, 4]] 2 (.vector [[1, 2]]) = .error .value := by decide
example : tableElementwiseCompareT exCmp [[1, 1], [3, 4]] [[1, 3], [1, 4]] 2 (.scalar 1) = .ok [true, false] := by decide
example : tableElementwiseCompareT exCmp [[1, 1], [3, 4]] [[1, 3], [1, 4]] 2 (.iterable [1, 1, 1]) = .error .value := by decide

end examples

end Serif.Tie
