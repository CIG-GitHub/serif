/-
  Translation tie for the output names of `Table.aggregate` / `Table.window` (C12, C13, C18).

  `Serif/Gen/TranslatedUniquify.lean` (regenerated on every run by harness/tr/uniquify.py from the text of src/serif/table.py) holds,
  for each of the two methods, the local function `uniquify` translated statement by statement (the closure set is an explicit
  state, the `while` loop is `whileFuel <condition> <body> fuel`), the local function that builds the candidate name of a built-in
  (`make_agg_name` / `sanitize`), and the naming skeleton of the method (the statements that touch the set of used names or the
  list of result columns, in source order).  They are proved equal to the hand-written models for all inputs.  What the two
  methods share is stated once, on `uniquifyFuel` and `namesSkel`.

  Parameters (not translated): `sfx`/`fmt` (how an f-string renders an integer; C12's `suffix_rendering_injective` is about
  `toString`), `sanitize_user_name` (tied in Serif/Tie/Sanitize.lean).
  Supplementary (see Serif/Tie/Typing.lean).
-/
import Serif.Gen.TranslatedUniquify
import Serif.Proofs.Uniquify
import Serif.Proofs.Names

namespace Serif.Tie
open Serif Serif.Gen.TU

/-- the translated `while` loop (condition `f"{name}{i}" in used`, body `i += 1`) followed by `f"{name}{i}"` is the model's
    `uniqLoop`, for every fuel -/
theorem whileLoop_eq (sfx : Nat → String) (name : String) (used : List String) (fuel i : Nat) :
    name ++ sfx (whileFuel (fun i => used.contains (name ++ sfx i)) (fun i => let i : Nat := i + 1; i) fuel i)
      = Group.uniqLoop sfx name used fuel i := by
  induction fuel generalizing i with
  | zero => rfl
  | succ fuel ih =>
    simp only [whileFuel, Group.uniqLoop]
    split
    · exact ih (i + 1)
    · rfl

/-- the model's `uniquify` with the fuel of its loop as a parameter (`Group.uniquify` fixes it to `len(used) + 1`) -/
def uniquifyFuel (sfx : Nat → String) (fuel : Nat) (used : List String) (name : String) : String × List String :=
  if used.contains name then
    let n := Group.uniqLoop sfx name used fuel 2
    (n, n :: used)
  else (name, name :: used)

theorem uniquifyFuel_stable (sfx : Nat → String) (hinj : ∀ name i j, name ++ sfx i = name ++ sfx j → i = j)
    (used : List String) (name : String) (fuel : Nat) (hf : used.length + 1 ≤ fuel) :
    uniquifyFuel sfx fuel used name = Group.uniquify sfx used name := by
  unfold uniquifyFuel Group.uniquify
  rw [Group.uniqLoop_fuel sfx name (hinj name) used fuel (used.length + 1) 2 (by omega) (by omega)]

theorem uniquifyFuelAgg_eq (sfx : Nat → String) (fuel : Nat) (used : List String) (name : String) :
    uniquifyFuelTAgg sfx fuel used name = uniquifyFuel sfx fuel used name := by
  unfold uniquifyFuelTAgg uniquifyFuel
  cases used.contains name
  · rfl
  · simp only [Bool.not_true, Bool.false_eq_true, if_false, if_true, whileLoop_eq]

theorem uniquifyFuelWin_eq (sfx : Nat → String) (fuel : Nat) (used : List String) (name : String) :
    uniquifyFuelTWin sfx fuel used name = uniquifyFuel sfx fuel used name := by
  unfold uniquifyFuelTWin uniquifyFuel
  cases used.contains name
  · rfl
  · simp only [Bool.not_true, Bool.false_eq_true, if_false, if_true, whileLoop_eq]

/-- `uniquify` of `Table.aggregate`, translated, is the model's: same name handed out, same new set -/
theorem uniquifyAgg_eq (sfx : Nat → String) (used : List String) (name : String) :
    uniquifyTAgg sfx used name = Group.uniquify sfx used name :=
  uniquifyFuelAgg_eq sfx _ used name

/-- `uniquify` of `Table.window`, translated, is the model's -/
theorem uniquifyWin_eq (sfx : Nat → String) (used : List String) (name : String) :
    uniquifyTWin sfx used name = Group.uniquify sfx used name :=
  uniquifyFuelWin_eq sfx _ used name

theorem uniquifyFuelAgg_stable (sfx : Nat → String) (hinj : ∀ name i j, name ++ sfx i = name ++ sfx j → i = j)
    (used : List String) (name : String) (fuel : Nat) (hf : used.length + 1 ≤ fuel) :
    uniquifyFuelTAgg sfx fuel used name = uniquifyTAgg sfx used name := by
  rw [uniquifyFuelAgg_eq, uniquifyAgg_eq, uniquifyFuel_stable sfx hinj used name fuel hf]

theorem uniquifyFuelWin_stable (sfx : Nat → String) (hinj : ∀ name i j, name ++ sfx i = name ++ sfx j → i = j)
    (used : List String) (name : String) (fuel : Nat) (hf : used.length + 1 ≤ fuel) :
    uniquifyFuelTWin sfx fuel used name = uniquifyTWin sfx used name := by
  rw [uniquifyFuelWin_eq, uniquifyWin_eq, uniquifyFuel_stable sfx hinj used name fuel hf]

/-- the name handed out is not in the set (for the numbered names this is the negated `while` condition: the bounded loop ended
    because the condition became false, not because the fuel ran out), and the new set is the old one plus that name -/
theorem uniquifyAgg_exits (sfx : Nat → String) (hinj : ∀ name i j, name ++ sfx i = name ++ sfx j → i = j)
    (used : List String) (name : String) :
    used.contains (uniquifyTAgg sfx used name).1 = false ∧
      (uniquifyTAgg sfx used name).2 = (uniquifyTAgg sfx used name).1 :: used := by
  rw [uniquifyAgg_eq]
  simpa using Group.uniquify_fresh sfx hinj used name

theorem uniquifyWin_exits (sfx : Nat → String) (hinj : ∀ name i j, name ++ sfx i = name ++ sfx j → i = j)
    (used : List String) (name : String) :
    used.contains (uniquifyTWin sfx used name).1 = false ∧
      (uniquifyTWin sfx used name).2 = (uniquifyTWin sfx used name).1 :: used := by
  rw [uniquifyWin_eq]
  simpa using Group.uniquify_fresh sfx hinj used name

theorem uniquifyAgg_eq_X (used : List String) (name : String) :
    (uniquifyTAgg toString used name).1 = X.uniquify used name := by
  rw [uniquifyAgg_eq, X.uniquify_eq_group]

theorem uniquifyWin_eq_X (used : List String) (name : String) :
    (uniquifyTWin toString used name).1 = X.uniquify used name := by
  rw [uniquifyWin_eq, X.uniquify_eq_group]

/-- `col._name or "key"` / `col._name or "col"`: the translator's `pyOrStr` is the model's `nameOr` -/
theorem pyOrStr_eq (n : Option String) (d : String) : pyOrStr n d = Group.nameOr n d := by
  cases n <;> rfl

/-- what the model of C12 takes as an oracle field (`ValCol.san`: "the sanitised base name"): the code's
    `_sanitize_user_name(col._name or "col")`, `"col"` when that is `None` -/
def sanOf (san : String → Option String) (n : Option String) : String :=
  match san (Group.nameOr n "col") with
  | none => "col"
  | some s => s

theorem makeAggNameAgg_suffix (san : String → Option String) (n : Option String) (suffix : String) :
    makeAggNameTAgg san n suffix = sanOf san n ++ "_" ++ suffix := by
  unfold makeAggNameTAgg sanOf
  rw [pyOrStr_eq]
  dsimp only
  generalize san (Group.nameOr n "col") = r
  cases r <;> rfl

/-- window spells it `_sanitize_user_name(base) or "col"`: the same, as long as the sanitizer does not return `""` -/
theorem makeAggNameWin_suffix (san : String → Option String) (n : Option String) (suffix : String)
    (h : san (Group.nameOr n "col") ≠ some "") :
    makeAggNameTWin san n suffix = sanOf san n ++ "_" ++ suffix := by
  unfold makeAggNameTWin sanOf
  rw [pyOrStr_eq]
  dsimp only
  generalize san (Group.nameOr n "col") = r at h
  cases r with
  | none => rfl
  | some s =>
    have : s ≠ "" := fun e => h (by rw [e])
    simp [pyOrStr, this]

/-- the model behind C18 writes the same thing as `X.aggCand` -/
theorem aggCand_eq (san : String → Option String) (n : Option String) (f : X.AggFn) (given : String) :
    X.aggCand san n (some f) given = sanOf san n ++ "_" ++ f.suffix := by
  unfold X.aggCand sanOf Group.nameOr
  cases n
  · dsimp only
    generalize san _ = r
    cases r <;> rfl
  · dsimp only
    generalize san _ = r
    cases r <;> rfl

theorem keyCand_eq (n : Option String) : X.keyCand n = Group.nameOr n "key" := by
  cases n <;> rfl

theorem makeAggNameAgg_eq_X (san : String → Option String) (n : Option String) (f : X.AggFn) (given : String) :
    makeAggNameTAgg san n f.suffix = X.aggCand san n (some f) given := by
  rw [aggCand_eq, makeAggNameAgg_suffix]

theorem makeAggNameWin_eq_X (san : String → Option String) (n : Option String) (f : X.AggFn) (given : String)
    (h : san (Group.nameOr n "col") ≠ some "") :
    makeAggNameTWin san n f.suffix = X.aggCand san n (some f) given := by
  rw [makeAggNameWin_suffix san n _ h, aggCand_eq]

/-- the hypothesis of the window theorems holds for the model of `_sanitize_user_name` (Serif/Tie/Sanitize.lean ties it to the
    code): it returns `None` or a non-empty string -/
theorem sanitizeCore_ne_empty (s : Names.Str) : Names.sanitizeCore s ≠ some [] :=
  fun h => Names.Base.ne_nil ⟨s, h⟩ rfl

/-- the set of used names after the successive `uniquify` calls (the model's `uniquifyAll` returns the names only) -/
def usedAfter (sfx : Nat → String) : List String → List String → List String
  | [], used => used
  | n :: ns, used => usedAfter sfx ns (Group.uniquify sfx used n).2

/-- one block of the method: the candidates `raws` are uniquified one after the other and appended to the result -/
def stage (sfx : Nat → String) (raws : List String) (st : List String × List String) : List String × List String :=
  (usedAfter sfx raws st.1, st.2 ++ Group.uniquifyAll sfx raws st.1)

theorem usedAfter_append (sfx : Nat → String) (a b used : List String) :
    usedAfter sfx (a ++ b) used = usedAfter sfx b (usedAfter sfx a used) := by
  induction a generalizing used with
  | nil => rfl
  | cons x xs ih => simp only [List.cons_append, usedAfter, ih]

theorem uniquifyAll_append (sfx : Nat → String) (a b used : List String) :
    Group.uniquifyAll sfx (a ++ b) used = Group.uniquifyAll sfx a used ++ Group.uniquifyAll sfx b (usedAfter sfx a used) := by
  induction a generalizing used with
  | nil => rfl
  | cons x xs ih => simp only [List.cons_append, Group.uniquifyAll, usedAfter, ih]

theorem stage_stage (sfx : Nat → String) (a b : List String) (st : List String × List String) :
    stage sfx b (stage sfx a st) = stage sfx (a ++ b) st := by
  simp only [stage, usedAfter_append, uniquifyAll_append, List.append_assoc]

theorem stage_init (sfx : Nat → String) (raws : List String) :
    (stage sfx raws ([], [])).2 = Group.uniquifyAll sfx raws [] := by
  simp [stage]

/-- `for c in l: result_cols.append(Vector(_, name=uniq(raw c)))` on the state (used names, names of `result_cols`) -/
def regLoop {γ : Type} (uniq : List String → String → String × List String) (raw : γ → String) (l : List γ)
    (st : List String × List String) : List String × List String :=
  l.foldl (fun st c => ((uniq st.1 (raw c)).2, st.2 ++ [(uniq st.1 (raw c)).1])) st

theorem regLoop_uniquify {γ : Type} (sfx : Nat → String) (raw : γ → String) (l : List γ) (st : List String × List String) :
    regLoop (Group.uniquify sfx) raw l st = stage sfx (l.map raw) st := by
  induction l generalizing st with
  | nil => simp [regLoop, stage, usedAfter, Group.uniquifyAll]
  | cons c cs ih =>
    rw [regLoop, List.foldl_cons, ← regLoop, ih]
    exact stage_stage sfx [raw c] (cs.map raw) st

/-- the naming skeleton the two methods share — the key loop, the six built-in blocks in source order, the `apply` loop, all on one
    set of used names — over the method's own `uniquify` and its function for the candidate name of a built-in -/
def namesSkel (uniq : List String → String → String × List String) (cand : Option String → Group.Fn → String)
    (over sum mean min max stdev count : List (Option String)) (apply : List String) : List String :=
  (regLoop uniq id apply <| regLoop uniq (cand · .stdev) stdev <| regLoop uniq (cand · .count) count <|
    regLoop uniq (cand · .max) max <| regLoop uniq (cand · .min) min <| regLoop uniq (cand · .mean) mean <|
    regLoop uniq (cand · .sum) sum <| regLoop uniq (pyOrStr · "key") over ([], [])).2

/-- `if xs: for x in xs: …` is the loop alone -/
theorem guard_fold {γ σ : Type} (l : List γ) (f : σ → γ → σ) (s : σ) :
    (if (!l.isEmpty) = true then l.foldl f s else s) = l.foldl f s := by
  cases l <;> rfl

/-- raw (pre-uniquify) names of a call, in column order, from the `_name`s of the columns -/
def rawOf (san : String → Option String) (over sum mean min max stdev count : List (Option String)) (apply : List String) :
    List String :=
  over.map (fun n => Group.nameOr n "key") ++
  sum.map (fun n => Group.aggName (sanOf san n) .sum) ++ mean.map (fun n => Group.aggName (sanOf san n) .mean) ++
  min.map (fun n => Group.aggName (sanOf san n) .min) ++ max.map (fun n => Group.aggName (sanOf san n) .max) ++
  count.map (fun n => Group.aggName (sanOf san n) .count) ++ stdev.map (fun n => Group.aggName (sanOf san n) .stdev) ++
  apply

theorem namesSkel_eq (sfx : Nat → String) (san : String → Option String)
    (uniq : List String → String → String × List String) (cand : Option String → Group.Fn → String)
    (hu : ∀ used n, uniq used n = Group.uniquify sfx used n) (hc : ∀ n fn, cand n fn = Group.aggName (sanOf san n) fn)
    (over sum mean min max stdev count : List (Option String)) (apply : List String) :
    namesSkel uniq cand over sum mean min max stdev count apply
      = Group.uniquifyAll sfx (rawOf san over sum mean min max stdev count apply) [] := by
  obtain rfl : uniq = Group.uniquify sfx := funext fun u => funext (hu u)
  obtain rfl : cand = fun n fn => Group.aggName (sanOf san n) fn := funext fun n => funext (hc n)
  simp only [namesSkel, regLoop_uniquify, stage_stage, stage_init, rawOf, List.map_id, pyOrStr_eq]

/-- **aggregate**: the names given to the result columns are the model's `uniquifyAll` of the raw names -/
theorem namesAgg_eq (sfx : Nat → String) (san : String → Option String)
    (over sum mean min max stdev count : List (Option String)) (apply : List String) :
    namesTAgg sfx san (over := over) (sum_over := sum) (mean_over := mean) (min_over := min) (max_over := max)
        (stdev_over := stdev) (count_over := count) (apply := apply)
      = Group.uniquifyAll sfx (rawOf san over sum mean min max stdev count apply) [] := by
  have skel : namesTAgg sfx san over sum mean min max stdev count apply =
      namesSkel (uniquifyTAgg sfx) (fun n fn => makeAggNameTAgg san n fn.suffix) over sum mean min max stdev count apply := by
    -- once the `if xs:` guards are gone the generated chain of folds is the skeleton up to `let`s and `(st.1, st.2) = st`
    simp only [namesTAgg, guard_fold]
    rfl
  rw [skel]
  exact namesSkel_eq sfx san _ _ (uniquifyAgg_eq sfx) (fun n fn => makeAggNameAgg_suffix san n fn.suffix) ..

/-- **window**: the same skeleton (it calls `uniquify(sanitize(col, "<fn>"))` inline); `hsan`: the sanitizer never returns `""`
    (window writes `_sanitize_user_name(base) or "col"`) -/
theorem namesWin_eq (sfx : Nat → String) (san : String → Option String) (hsan : ∀ s, san s ≠ some "")
    (over sum mean min max stdev count : List (Option String)) (apply : List String) :
    namesTWin sfx san (over := over) (sum_over := sum) (mean_over := mean) (min_over := min) (max_over := max)
        (stdev_over := stdev) (count_over := count) (apply := apply)
      = Group.uniquifyAll sfx (rawOf san over sum mean min max stdev count apply) [] := by
  have skel : namesTWin sfx san over sum mean min max stdev count apply =
      namesSkel (uniquifyTWin sfx) (fun n fn => makeAggNameTWin san n fn.suffix) over sum mean min max stdev count apply := by
    simp only [namesTWin, guard_fold]
    rfl
  rw [skel]
  exact namesSkel_eq sfx san _ _ (uniquifyWin_eq sfx) (fun n fn => makeAggNameWin_suffix san n fn.suffix (hsan _)) ..

section whole
variable {κc ρ α β : Type}

/-- the raw names computed from the columns' `_name`s are the model's `rawNames`, when the model's oracle field `ValCol.san` is
    what the code computes from the column's name (`nm c` is the `_name` of value column `c`) -/
theorem rawOf_eq_rawNames (san : String → Option String) (a : Group.Args κc ρ α β) (nm : Group.ValCol → Option String)
    (h : ∀ p ∈ Group.builtinPlans a, p.2.san = sanOf san (nm p.2)) :
    rawOf san (a.over.map (·.name)) (a.sumOver.map nm) (a.meanOver.map nm) (a.minOver.map nm) (a.maxOver.map nm)
      (a.stdevOver.map nm) (a.countOver.map nm) (a.apply.map (·.name)) = Group.rawNames a := by
  have hb : (Group.builtinPlans a).map (fun p => Group.aggName p.2.san p.1) =
      (Group.builtinPlans a).map (fun p => Group.aggName (sanOf san (nm p.2)) p.1) :=
    List.map_congr_left (fun p hp => by rw [h p hp])
  rw [Group.rawNames, hb]
  simp only [rawOf, Group.builtinPlans, List.map_append, List.map_map, Function.comp_def, List.append_assoc]

variable [DecidableEq κc]

/-- the column names of the model's `aggregate` result are the names the translated code hands out -/
theorem aggregate_names_translated (sfx : Nat → String) (san : String → Option String) (a : Group.Args κc ρ α β)
    (nm : Group.ValCol → Option String) (h : ∀ p ∈ Group.builtinPlans a, p.2.san = sanOf san (nm p.2))
    (cols : List (Group.OutCol κc ρ β)) (hc : Group.aggregate sfx a = .ok cols) :
    cols.map (·.name) =
      namesTAgg sfx san (over := a.over.map (·.name)) (sum_over := a.sumOver.map nm) (mean_over := a.meanOver.map nm)
        (min_over := a.minOver.map nm) (max_over := a.maxOver.map nm) (stdev_over := a.stdevOver.map nm)
        (count_over := a.countOver.map nm) (apply := a.apply.map (·.name)) := by
  rw [namesAgg_eq, rawOf_eq_rawNames san a nm h, (Group.aggregate_ok sfx a cols hc).2]

/-- the column names of the model's `window` result are the names the translated code hands out -/
theorem window_names_translated (sfx : Nat → String) (san : String → Option String) (hsan : ∀ s, san s ≠ some "")
    (a : Group.Args κc ρ α β)
    (nm : Group.ValCol → Option String) (h : ∀ p ∈ Group.builtinPlans a, p.2.san = sanOf san (nm p.2))
    (cols : List (Group.OutCol κc ρ β)) (hc : Group.window sfx a = .ok cols) :
    cols.map (·.name) =
      namesTWin sfx san (over := a.over.map (·.name)) (sum_over := a.sumOver.map nm) (mean_over := a.meanOver.map nm)
        (min_over := a.minOver.map nm) (max_over := a.maxOver.map nm) (stdev_over := a.stdevOver.map nm)
        (count_over := a.countOver.map nm) (apply := a.apply.map (·.name)) := by
  rw [namesWin_eq sfx san hsan, rawOf_eq_rawNames san a nm h, (Group.window_ok sfx a cols hc).2]

end whole

theorem rawOf_eq_aggCands (san : String → Option String) (colNames : List (Option String)) (a : X.AggArgs) :
    rawOf san (a.keys.map (fun k => colNames.getD k none)) (a.sum.map (fun k => colNames.getD k none))
      (a.mean.map (fun k => colNames.getD k none)) (a.min.map (fun k => colNames.getD k none))
      (a.max.map (fun k => colNames.getD k none)) (a.stdev.map (fun k => colNames.getD k none))
      (a.count.map (fun k => colNames.getD k none)) (a.apply.map (·.1)) = X.aggCands san colNames a := by
  unfold rawOf X.aggCands X.AggArgs.flat
  simp only [List.map_append, List.map_map, Function.comp_def, aggCand_eq, keyCand_eq, List.append_assoc]
  rfl

theorem namesAgg_eq_X (san : String → Option String) (colNames : List (Option String)) (a : X.AggArgs) :
    namesTAgg toString san (over := a.keys.map (fun k => colNames.getD k none)) (sum_over := a.sum.map (fun k => colNames.getD k none))
      (mean_over := a.mean.map (fun k => colNames.getD k none)) (min_over := a.min.map (fun k => colNames.getD k none))
      (max_over := a.max.map (fun k => colNames.getD k none)) (stdev_over := a.stdev.map (fun k => colNames.getD k none))
      (count_over := a.count.map (fun k => colNames.getD k none)) (apply := a.apply.map (·.1)) = X.aggNames san colNames a := by
  rw [namesAgg_eq, rawOf_eq_aggCands, X.aggNames, X.uniqAll_eq_group]

theorem namesWin_eq_X (san : String → Option String) (hsan : ∀ s, san s ≠ some "") (colNames : List (Option String)) (a : X.AggArgs) :
    namesTWin toString san (over := a.keys.map (fun k => colNames.getD k none)) (sum_over := a.sum.map (fun k => colNames.getD k none))
      (mean_over := a.mean.map (fun k => colNames.getD k none)) (min_over := a.min.map (fun k => colNames.getD k none))
      (max_over := a.max.map (fun k => colNames.getD k none)) (stdev_over := a.stdev.map (fun k => colNames.getD k none))
      (count_over := a.count.map (fun k => colNames.getD k none)) (apply := a.apply.map (·.1)) = X.aggNames san colNames a := by
  rw [namesWin_eq toString san hsan, rawOf_eq_aggCands, X.aggNames, X.uniqAll_eq_group]

/-! non-vacuity: the translated functions on concrete inputs, and satisfiable hypotheses -/

-- a free name is kept and registered; a taken one gets the first free number ≥ 2
example : uniquifyTAgg (fun i => toString i) ["b", "a"] "c" = ("c", ["c", "b", "a"]) := by decide +kernel
example : uniquifyTAgg (fun i => toString i) ["a3", "a2", "b", "a"] "a" = ("a4", ["a4", "a3", "a2", "b", "a"]) := by
  decide +kernel
example : uniquifyTWin (fun i => toString i) ["a3", "a2", "b", "a"] "a" = ("a4", ["a4", "a3", "a2", "b", "a"]) := by
  decide +kernel
-- the fuel is what bounds the loop: without enough of it the loop stops at a name that is still taken (so the hypothesis
-- `used.length + 1 ≤ fuel` of `uniquifyFuelAgg_stable` is needed), with more than enough nothing changes
example : uniquifyFuelTAgg (fun i => toString i) 1 ["a3", "a2", "b", "a"] "a" = ("a3", ["a3", "a3", "a2", "b", "a"]) := by
  decide +kernel
example : uniquifyFuelTAgg (fun i => toString i) 50 ["a3", "a2", "b", "a"] "a" = ("a4", ["a4", "a3", "a2", "b", "a"]) := by
  decide +kernel
-- the rendering matters: with a constant (non-injective) `fmt` the loop cannot find a free name — hence `hinj` in `_stable`/`_exits`
example : (uniquifyTAgg (fun _ => "x") ["ax", "a"] "a").1 = "ax" := by decide +kernel

/-- a sanitizer for the examples: lower-case letters kept, everything else dropped, `None` when nothing is left -/
private def demoSan (s : String) : Option String :=
  let t := String.ofList (s.toList.filter (fun c => decide ('a' ≤ c ∧ c ≤ 'z')))
  if t = "" then none else some t

private theorem demoSan_ne (s : String) : demoSan s ≠ some "" := by
  unfold demoSan
  dsimp only
  split
  · simp
  · rename_i h
    intro e
    exact h (Option.some.inj e)

example : makeAggNameTAgg demoSan (some "Unit Price") "sum" = "nitrice_sum" := by decide +kernel
example : makeAggNameTAgg demoSan none "mean" = "col_mean" := by decide +kernel
example : makeAggNameTAgg demoSan (some "") "mean" = "col_mean" := by decide +kernel
example : makeAggNameTAgg demoSan (some "123") "max" = "col_max" := by decide +kernel
example : makeAggNameTWin demoSan (some "123") "max" = "col_max" := by decide +kernel
example : makeAggNameTWin demoSan (some "Unit Price") "sum" = "nitrice_sum" := by decide +kernel
-- a sanitizer that returns "" (excluded by `hsan`; `sanitizeCore_ne_empty`): aggregate's spelling and the models give "_sum",
-- window's `… or "col"` would give "col_sum" — the only input on which the two spellings differ
example : makeAggNameTAgg (fun _ => some "") (some "a") "sum" = "_sum" ∧
    X.aggCand (fun _ => some "") (some "a") (some .sum) "" = "_sum" := by decide +kernel

-- a whole call: two keys (one unnamed), the same column summed twice, a count of an unnamed column, and two custom entries whose
-- names collide with a built-in's and with a key's
example : namesTAgg (fun i => toString i) demoSan (over := [some "k", none]) (sum_over := [some "x", some "x"]) (mean_over := [])
      (min_over := []) (max_over := []) (stdev_over := [some "x"]) (count_over := [none]) (apply := ["x_sum", "k"])
    = ["k", "key", "x_sum", "x_sum2", "col_count", "x_stdev", "x_sum3", "k2"] := by decide +kernel
example : namesTWin (fun i => toString i) demoSan (over := [some "k", none]) (sum_over := [some "x", some "x"]) (mean_over := [])
      (min_over := []) (max_over := []) (stdev_over := [some "x"]) (count_over := [none]) (apply := ["x_sum", "k"])
    = ["k", "key", "x_sum", "x_sum2", "col_count", "x_stdev", "x_sum3", "k2"] := by decide +kernel
-- a numbered name that is itself taken later: "x_sum2" given by the user after the code handed it out
example : namesTAgg (fun i => toString i) demoSan (over := []) (sum_over := [some "x", some "x"]) (mean_over := [])
      (min_over := []) (max_over := []) (stdev_over := []) (count_over := []) (apply := ["x_sum2", "x_sum"])
    = ["x_sum", "x_sum2", "x_sum22", "x_sum3"] := by decide +kernel

-- the hypotheses of the corollaries are satisfiable: `hsan` by `demoSan` (above) and by the model of the real sanitizer …
example : ∀ s : String, (fun s : String => (Names.sanitizeCore s.toList).map String.ofList) s ≠ some "" := by
  intro s
  dsimp only
  cases h : Names.sanitizeCore s.toList with
  | none => simp
  | some l =>
    have hl : l ≠ [] := fun e => sanitizeCore_ne_empty s.toList (by rw [h, e])
    intro e
    have := congrArg String.toList (Option.some.inj e)
    simp at this
    exact hl this
-- … and the oracle relation `h` by the example call of Props/C12 (each value column named by its own sanitised name)
example : ∀ p ∈ Group.builtinPlans Group.exampleArgs, p.2.san = sanOf demoSan ((fun c : Group.ValCol => some c.san) p.2) := by
  decide +kernel
example : (Group.aggregate (fun i => toString i) Group.exampleArgs).toOption.map (fun cols => cols.map (·.name)) =
    some (namesTAgg (fun i => toString i) demoSan (over := Group.exampleArgs.over.map (·.name))
      (sum_over := Group.exampleArgs.sumOver.map (fun c => some c.san)) (mean_over := []) (min_over := []) (max_over := [])
      (stdev_over := []) (count_over := []) (apply := Group.exampleArgs.apply.map (·.name))) := by decide +kernel

end Serif.Tie
