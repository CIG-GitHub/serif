/-
  Translation tie for the elementwise helpers (C05, C06): the per-element rules of `Vector._elementwise_operation`
  (`None if (x is None or y is None) else op_func(x, y)` in the Vector and the iterable branch, `None if x is None else
  op_func(x, other)` for a scalar), of `Vector._elementwise_compare` (`False if … else bool(op(x, y))`) and of
  `Vector._unary_operation`, and the order of the operand branches with their length checks, translated from the source
  (`Serif/Gen/TranslatedVec.lean`), are the model's `Vec.cell`, `Vec.cmpCell`, `Vec.cell1` and `Vec.apply`.
  Supplementary (see Serif/Tie/Typing.lean).
-/
import Serif.Gen.TranslatedVec
import Serif.Model.Vec

namespace Serif.Tie
open Serif Serif.Vec Serif.Gen.TV

variable {α β γ : Type}

theorem arithCellVec_eq (op : α → β → Res γ) (x : Option α) (y : Option β) : arithCellVecT op x y = cell op x y := by
  cases x <;> cases y <;> rfl

theorem arithCellSeq_eq (op : α → β → Res γ) (x : Option α) (y : Option β) : arithCellSeqT op x y = cell op x y := by
  cases x <;> cases y <;> rfl

theorem arithCellScalar_eq (op : α → β → Res γ) (s : β) (x : Option α) : arithCellScalarT op s x = cell op x (some s) := by
  cases x <;> rfl

theorem cmpCellVec_eq (op : α → β → Res Bool) (x : Option α) (y : Option β) : cmpCellVecT op x y = cmpCell op x y := by
  cases x <;> cases y <;> rfl

theorem cmpCellSeq_eq (op : α → β → Res Bool) (x : Option α) (y : Option β) : cmpCellSeqT op x y = cmpCell op x y := by
  cases x <;> cases y <;> rfl

theorem cmpCellScalar_eq (op : α → β → Res Bool) (s : β) (x : Option α) : cmpCellScalarT op s x = cmpCell op x (some s) := by
  cases x <;> rfl

theorem unaryCell_eq (f : α → Res γ) (x : Option α) : unaryCellT f x = cell1 f x := by
  cases x <;> rfl

/-- `cmpBranchesT` is the same text as `arithBranchesT`, so this one lemma serves `_elementwise_operation` and
    `_elementwise_compare` -/
theorem branches_eq_apply {ρ : Type} (f fv fs : Option α → Option β → Res ρ) (fsc : β → Option α → Res ρ)
    (hv : ∀ x y, fv x y = f x y) (hs : ∀ x y, fs x y = f x y) (hsc : ∀ s x, fsc s x = f x (some s))
    (xs : Col α) (o : Operand β) :
    arithBranchesT (match o with | .vec _ _ => true | _ => false) (match o with | .seq _ => true | _ => false)
      xs.length ((o.len?).getD 0)
      (match o with | .vec ys _ => zipCells fv xs ys | _ => .error .other)
      (match o with | .seq ys => zipCells fs xs ys | _ => .error .other)
      (match o with | .scalar s => mapRes (fsc s) xs | _ => .error .other)
    = apply f xs o := by
  have h1 : fv = f := funext fun x => funext (hv x)
  have h2 : fs = f := funext fun x => funext (hs x)
  have h3 : fsc = fun s x => f x (some s) := funext fun s => funext (hsc s)
  subst h1 h2 h3
  cases o <;> simp [arithBranchesT, apply, seqOp, scalarOp, Operand.len?]

/-- the whole of `_elementwise_operation` on a 1-D vector: the translated branch order and length checks around the translated
    per-element rules are the model's `elementwise` -/
theorem elementwise_eq (op : α → β → Res γ) (xs : Col α) (o : Operand β) :
    arithBranchesT (match o with | .vec _ _ => true | _ => false) (match o with | .seq _ => true | _ => false)
      xs.length ((o.len?).getD 0)
      (match o with | .vec ys _ => zipCells (arithCellVecT op) xs ys | _ => .error .other)
      (match o with | .seq ys => zipCells (arithCellSeqT op) xs ys | _ => .error .other)
      (match o with | .scalar s => mapRes (arithCellScalarT op s) xs | _ => .error .other)
    = elementwise op xs o :=
  branches_eq_apply (cell op) _ _ _ (arithCellVec_eq op) (arithCellSeq_eq op) (arithCellScalar_eq op) xs o

/-- the same for `_elementwise_compare` (before the result is wrapped as a non-nullable bool vector) -/
theorem compare_eq (op : α → β → Res Bool) (xs : Col α) (o : Operand β) :
    cmpBranchesT (match o with | .vec _ _ => true | _ => false) (match o with | .seq _ => true | _ => false)
      xs.length ((o.len?).getD 0)
      (match o with | .vec ys _ => zipCells (cmpCellVecT op) xs ys | _ => .error .other)
      (match o with | .seq ys => zipCells (cmpCellSeqT op) xs ys | _ => .error .other)
      (match o with | .scalar s => mapRes (cmpCellScalarT op s) xs | _ => .error .other)
    = apply (cmpCell op) xs o :=
  branches_eq_apply (cmpCell op) _ _ _ (cmpCellVec_eq op) (cmpCellSeq_eq op) (cmpCellScalar_eq op) xs o

end Serif.Tie
