/-
  Translation tie for the bodies of `Table.sort_by` and `Vector.sort_by` (C14).  `Serif/Tie/Sort.lean` ties the None flag of the sort
  key; this file ties everything around it.  Each part `xT` of `Serif/Gen/TranslatedSortBody.lean` (translated by
  `harness/tr/sortbody.py` statement by statement, regenerated on every run) equals the model function of the same step, for all
  arguments; `tableSortBy_eq` chains the parts.

  Parameters of the translated functions, and what the theorems assume of them:
    * `pySort` / `pySorted` -- CPython's `list.sort(key=, reverse=)` / `sorted(…, key=, reverse=)`.  ASSUMED (hypothesis `StableSort`,
      stated below, nothing else): it is the model's stable insertion sort `isort` on the order "may stay in front of" induced by
      Python's `<` on the key tuples (`tupleLt`: first components, then `valLt` on the cells) -- with `reverse=True` the converse
      order, ties still in input order.  `refSort_stable` shows the hypothesis is satisfiable.
    * `flagT` -- the first component of the key tuple; translated and tied in `Serif/Tie/Sort.lean` (`tableSortFlagT`,
      `vectorSortFlagT`, `translated_flags_ok : flagOK …`).  The table theorems hold for EVERY flag (as the model is stated for every
      `tbl`); `vectorSortBy_eq` needs that the flag separates None from the values (`flagOK_separates`: every `flagOK` flag does),
      because the source replaces None by `0` in the value component and the model compares None with nothing.
    * `getitem` -- `self[name]` for a str (`none`: SerifKeyError).  `lenSelf` -- `len(self)` (tied in `Serif/Tie/Tab.lean`).
    * `zero` -- whatever cell the `0` that stands in for None is; `dflt` -- the value of an out-of-range `src[i]` (never reached).

  The Python arguments are seen through `PyArg` / `PySpec` (generated file); `byArgOf`, `revArgOf`, `keySrcOf` map them to the model's
  `ByArg`, `RevArg`, `KeySrc`, and every value of the model's types is such a view (`byArgOf_pyOfByArg`, `revArgOf_pyOfRevArg`;
  `tableSortBy_eq_model` is the tie stated on the model's own types).  `resolveKey`, `resolve_cons`: Serif/Proofs/Sort.lean.
  Names of columns / vectors, dtypes and the `Vector` / `Table` constructors are outside (a column is its data).
  Supplementary (see Serif/Tie/Typing.lean).
-/
import Serif.Gen.TranslatedSortBody
import Serif.Proofs.Sort
import Serif.Proofs.Util

namespace Serif.Tie
open Serif Serif.Sort Serif.Gen.TSB

/-- Python's `<` on the key tuples `(flag, v)`: the first components decide unless they are equal (`False < True`), then the
    value components are compared (`valLt`, the model's `<` on cells) -/
def tupleLt (a b : Bool × Cell) : Bool := if a.1 == b.1 then valLt a.2 b.2 else (!a.1 && b.1)

/-- the order `list.sort(key=…, reverse=rev)` / `sorted(…, key=…, reverse=rev)` realises: "may stay in front of" -/
def sortLE {α : Type} (key : α → Bool × Cell) (rev : Bool) (a b : α) : Bool :=
  if rev then !(tupleLt (key a) (key b)) else !(tupleLt (key b) (key a))

/-- THE assumption on CPython's `list.sort` / `sorted`: a stable sort by the key order — the model's `isort` -/
def StableSort {α : Type} (pySort : (α → Bool × Cell) → Bool → List α → List α) : Prop :=
  ∀ key rev l, pySort key rev l = isort (sortLE key rev) l

/-- a function that satisfies the assumption (used in the examples below) -/
def refSort {α : Type} (key : α → Bool × Cell) (rev : Bool) (l : List α) : List α := isort (sortLE key rev) l

theorem refSort_stable {α : Type} : StableSort (refSort (α := α)) := fun _ _ _ => rfl

def keySrcOf (getitem : String → Option (List Cell)) : PySpec → KeySrc
  | .str name => match getitem name with
    | none => .missing
    | some c => .cells c
  | .vector c => .cells c
  | .other => .bad

def byArgOf (getitem : String → Option (List Cell)) : PyArg PySpec → ByArg
  | .single x => .single (keySrcOf getitem x)
  | .seq xs => .seq (xs.map (keySrcOf getitem))
  | .other => .other

def revArgOf : PyArg Bool → RevArg
  | .single b => .one b
  | .seq bs => .many bs
  | .other => .other

theorem resolveColumn_eq (g : String → Option (List Cell)) (spec : PySpec) :
    resolveColumnT g spec = resolveKey (keySrcOf g spec) := by
  cases spec with
  | str name =>
    simp only [resolveColumnT, keySrcOf]
    cases g name <;> rfl
  | vector c => rfl
  | other => rfl

theorem sortByKeys_eq (g : String → Option (List Cell)) (by_ : PyArg PySpec) :
    normBy (byArgOf g by_) =
      match sortByKeysT by_ with
      | .error e => .error e
      | .ok keys => .ok (keys.map (keySrcOf g)) := by
  cases by_ with
  | single x => rfl
  | seq xs => cases xs <;> rfl
  | other => rfl

theorem sortByRevFlags_eq (reverse : PyArg Bool) (keys : List PySpec) :
    sortByRevFlagsT reverse keys = normRev keys.length (revArgOf reverse) := by
  cases reverse with
  | single b => rfl
  | seq bs =>
    simp only [sortByRevFlagsT, normRev, revArgOf, pyBool, List.map_id']
  | other => rfl

private theorem resolveLoop (g : String → Option (List Cell)) (n : Nat)
    {f : List (List Cell) → PySpec → Res (List (List Cell))}
    (hf : ∀ acc spec, f acc spec = match resolveKey (keySrcOf g spec) with
      | .error e => .error e
      | .ok c => if c.length != n then .error .value else .ok (acc ++ [c]))
    (keys : List PySpec) (acc : List (List Cell)) :
    keys.foldlM f acc
      = match resolve n (keys.map (keySrcOf g)) with
        | .error e => .error e
        | .ok cs => .ok (acc ++ cs) := by
  induction keys generalizing acc with
  | nil => simp [resolve, pure, Except.pure]
  | cons k ks ih =>
    rw [List.foldlM_cons, List.map_cons, resolve_cons, hf]
    cases resolveKey (keySrcOf g k) with
    | error e => rfl
    | ok c =>
      by_cases h : (c.length != n) = true
      · simp only [h, ↓reduceIte]; rfl
      · simp only [h, Bool.false_eq_true, ↓reduceIte, bind, Except.bind]
        rw [ih]
        cases resolve n (ks.map (keySrcOf g)) with
        | error e => rfl
        | ok cs => simp

theorem sortByResolve_eq (g : String → Option (List Cell)) (n : Nat) (keys : List PySpec) :
    sortByResolveT g n keys =
      match resolve n (keys.map (keySrcOf g)) with
      | .error e => .error e
      | .ok cs => .ok (cs, n) := by
  unfold sortByResolveT
  dsimp only
  rw [resolveLoop g n ?_]
  · cases resolve n (keys.map (keySrcOf g)) with
    | error e => rfl
    | ok cs => simp
  · intro acc spec
    rw [resolveColumn_eq]
    rfl

theorem sortByIndices_eq (tbl : Bool → Bool → Bool → Bool) (pySort : (Nat → Bool × Cell) → Bool → List Nat → List Nat)
    (hs : StableSort pySort) (naLast : Bool) (n : Nat) (cols : List (List Cell)) (revs : List Bool) :
    sortByIndicesT tbl pySort naLast n cols revs = sortIndices tbl naLast (cols.zip revs) n := by
  unfold sortByIndicesT sortIndices sortKeys
  rw [← List.map_reverse, List.foldl_map]
  -- the two `show`s only reduce the generated `let`s and the pattern-matching `fun indices (col, rev)`, so that `rw [hs]` sees `pySort`
  show List.foldl _ _ _ = _
  congr 1
  funext idx kr
  show pySort _ _ _ = _
  rw [hs]
  -- the content of the tie: `sortLE key_fn rev` is `rowLE tbl naLast (col, rev)`, because `tupleLt` on `(flag, cell)` pairs and the model's `keyLt` are the
  -- same `if fa == fb then valLt … else (!fa && fb)` up to `let`
  rfl

theorem sortByGather_eq {β : Type} (d : β) (cols : List (List β)) (idx : List Nat) :
    sortByGatherT d cols idx = cols.map (fun src => gather d src idx) :=
  (List.foldl_append_singleton (fun src => gather d src idx) cols []).trans (List.nil_append _)

/-- gathering through the empty index list (`sortIndices_zero`) gives empty columns: the empty-table shortcut of the source -/
theorem gather_nil {β : Type} (d : β) (src : List β) : gather d src [] = [] := rfl

/-- what `Table.sort_by` returns according to the model: refusal, or every column gathered through the sorted index list -/
def tableResult {β : Type} (tbl : Bool → Bool → Bool → Bool) (d : β) (cols : List (List β)) (n : Nat) (by_ : ByArg)
    (rev : RevArg) (naLast : Bool) : Res (List (List β)) :=
  match sortByTable tbl n by_ rev naLast with
  | .error e => .error e
  | .ok idx => .ok (cols.map (fun src => gather d src idx))

theorem tableSortBy_eq {β : Type} (g : String → Option (List Cell)) (tbl : Bool → Bool → Bool → Bool)
    (pySort : (Nat → Bool × Cell) → Bool → List Nat → List Nat) (hs : StableSort pySort) (d : β)
    (cols : List (List β)) (n : Nat) (by_ : PyArg PySpec) (reverse : PyArg Bool) (naLast : Bool) :
    tableSortByT g tbl pySort d cols n by_ reverse naLast
      = tableResult tbl d cols n (byArgOf g by_) (revArgOf reverse) naLast := by
  unfold tableSortByT tableResult sortByTable validate validateKeys
  rw [sortByKeys_eq]
  cases sortByKeysT by_ with
  | error e => rfl
  | ok keys =>
    dsimp only
    rw [List.length_map, sortByRevFlags_eq]
    cases normRev keys.length (revArgOf reverse) with
    | error e => rfl
    | ok revs =>
      dsimp only
      rw [sortByResolve_eq]
      cases resolve n (keys.map (keySrcOf g)) with
      | error e => rfl
      | ok cs =>
        simp only [sortByIndices_eq _ _ hs, sortByGather_eq]
        -- the empty-table shortcut of the source (`if nrows == 0: return` empty columns) against gathering through `sortIndices … 0 = []`
        by_cases hn : n = 0
        · subst hn
          simp [sortIndices_zero, gather_nil]
        · simp [hn]

/-- every request of the model is the view of some Python call: the tie above is about all of `ByArg` × `RevArg` -/
def specOfKeySrc : KeySrc → PySpec
  | .missing => .str "?"
  | .bad => .other
  | .cells c => .vector c

def pyOfByArg : ByArg → PyArg PySpec
  | .single k => .single (specOfKeySrc k)
  | .seq ks => .seq (ks.map specOfKeySrc)
  | .other => .other

def pyOfRevArg : RevArg → PyArg Bool
  | .one b => .single b
  | .many bs => .seq bs
  | .other => .other

theorem keySrcOf_specOfKeySrc (k : KeySrc) : keySrcOf (fun _ => none) (specOfKeySrc k) = k := by
  cases k <;> rfl

theorem byArgOf_pyOfByArg (b : ByArg) : byArgOf (fun _ => none) (pyOfByArg b) = b := by
  cases b <;> simp [pyOfByArg, byArgOf, Function.comp_def, keySrcOf_specOfKeySrc]

theorem revArgOf_pyOfRevArg (r : RevArg) : revArgOf (pyOfRevArg r) = r := by
  cases r <;> rfl

/-- the tie stated on the model's own argument types -/
theorem tableSortBy_eq_model {β : Type} (tbl : Bool → Bool → Bool → Bool)
    (pySort : (Nat → Bool × Cell) → Bool → List Nat → List Nat) (hs : StableSort pySort) (d : β)
    (cols : List (List β)) (n : Nat) (by_ : ByArg) (rev : RevArg) (naLast : Bool) :
    tableSortByT (fun _ => none) tbl pySort d cols n (pyOfByArg by_) (pyOfRevArg rev) naLast
      = tableResult tbl d cols n by_ rev naLast := by
  rw [tableSortBy_eq _ _ _ hs, byArgOf_pyOfByArg, revArgOf_pyOfRevArg]

/-- the key tuples of `Vector.sort_by` (None replaced by `0` in the value component) compare like the model's key order, as soon
    as the flag separates None from the values -/
private theorem vectorKey_lt (tbl : Bool → Bool → Bool → Bool) (zero : Cell) (rev naLast : Bool)
    (hsep : tbl true rev naLast ≠ tbl false rev naLast) (a b : Elem) :
    tupleLt (tbl a.1.isNone rev naLast, (if !a.1.isNone then a.1 else zero))
            (tbl b.1.isNone rev naLast, (if !b.1.isNone then b.1 else zero))
      = keyLt (fun n => tbl n rev naLast) a.1 b.1 := by
  rcases a with ⟨_ | a, _⟩ <;> rcases b with ⟨_ | b, _⟩ <;>
    simp [tupleLt, keyLt, valLt_irrefl, hsep, Ne.symm hsep]

theorem vectorSortBy_eq (tbl : Bool → Bool → Bool → Bool) (zero : Cell)
    (pySorted : (Elem → Bool × Cell) → Bool → List Elem → List Elem) (hs : StableSort pySorted)
    (data : List Elem) (rev naLast : Bool) (hsep : tbl true rev naLast ≠ tbl false rev naLast) :
    vectorSortByT tbl zero pySorted data rev naLast = sortByVector tbl rev naLast data := by
  unfold vectorSortByT sortByVector
  show pySorted _ _ _ = _
  rw [hs]
  congr 1
  funext a b
  unfold sortLE elemLE pyLE
  rw [vectorKey_lt tbl zero rev naLast hsep a b, vectorKey_lt tbl zero rev naLast hsep b a]

/-- `Table.sort_by` as translated, with any flag that satisfies `flagOK` (C14 `flag_table_ok`: the flag of this run does) and
    CPython's sort stable: a well-formed request is answered by gathering every column through an index list that passes the
    executable contract `checkTable` of C14 (permutation, lexicographic order of the keys, stability) -/
theorem tableSortBy_meets_contract {β : Type} (g : String → Option (List Cell)) {tbl : Bool → Bool → Bool → Bool}
    (hf : flagOK tbl = true) (pySort : (Nat → Bool × Cell) → Bool → List Nat → List Nat) (hs : StableSort pySort) (d : β)
    (cols : List (List β)) (n : Nat) (by_ : PyArg PySpec) (reverse : PyArg Bool) (naLast : Bool)
    {keys : List (List Cell × Bool)} (hv : validate n (byArgOf g by_) (revArgOf reverse) = .ok keys) :
    ∃ p, tableSortByT g tbl pySort d cols n by_ reverse naLast = .ok (cols.map (fun src => gather d src p)) ∧
      checkTable naLast keys n p = true := by
  refine ⟨sortIndices tbl naLast keys n, ?_, ?_⟩
  · rw [tableSortBy_eq _ _ _ hs, tableResult, sortByTable_ok hv]
  · rw [sortIndices_eq_spec hf, checkTable]
    exact checkSorted_sortKeys (specRows_totalPreorder naLast keys) _

/-- and a request that does not pass the validation is refused with the model's error -/
theorem tableSortBy_refused {β : Type} (g : String → Option (List Cell)) (tbl : Bool → Bool → Bool → Bool)
    (pySort : (Nat → Bool × Cell) → Bool → List Nat → List Nat) (hs : StableSort pySort) (d : β)
    (cols : List (List β)) (n : Nat) (by_ : PyArg PySpec) (reverse : PyArg Bool) (naLast : Bool)
    {e : Err} (hv : validate n (byArgOf g by_) (revArgOf reverse) = .error e) :
    tableSortByT g tbl pySort d cols n by_ reverse naLast = .error e := by
  rw [tableSortBy_eq _ _ _ hs, tableResult, sortByTable_error hv]

/-- `Vector.sort_by` as translated, with a `flagOK` flag: the result passes the executable contract `checkVector` of C14 -/
theorem vectorSortBy_meets_contract {tbl : Bool → Bool → Bool → Bool} (hf : flagOK tbl = true) (zero : Cell)
    (pySorted : (Elem → Bool × Cell) → Bool → List Elem → List Elem) (hs : StableSort pySorted)
    (data : List Elem) (rev naLast : Bool) :
    checkVector rev naLast data (vectorSortByT tbl zero pySorted data rev naLast) = true := by
  rw [vectorSortBy_eq tbl zero pySorted hs data rev naLast (flagOK_separates hf rev naLast), sortByVector_eq_spec hf,
    checkVector]
  exact checkSorted_sortKeys (specElems_totalPreorder rev naLast) _

/-- the flags extracted on this run satisfy the hypotheses above -/
theorem run_flags_ok : flagOK Gen.sortFlagTable = true ∧ flagOK Gen.sortFlagVector = true := by decide +kernel

/-- the defaults of the two signatures: `reverse=False, na_last=True` -/
theorem sortBy_defaults : tableSortByDefaultsT = (.single false, true) ∧ vectorSortByDefaultsT = (false, true) :=
  ⟨rfl, rfl⟩

/-! ### non-vacuity: the translated functions evaluated on concrete inputs (with the reference sort for `list.sort`) -/

/-- a table with columns a = [1, None, 0, 1], b = [0, 1, None, 0], c = [10, 11, 12, 13] -/
private def gi : String → Option (List Cell)
  | "a" => some [some 1, none, some 0, some 1]
  | "b" => some [some 0, some 1, none, some 0]
  | _ => none

private def tcols : List (List Nat) := [[1, 100, 0, 1], [0, 1, 100, 0], [10, 11, 12, 13]]

/-- `t.sort_by(["a", t.b], reverse=[True, False], na_last=False)`: the model's example (index list [1, 0, 3, 2]) -/
example : tableSortByT gi Gen.sortFlagTable refSort 0 tcols 4
    (.seq [.str "a", .vector [some 0, some 1, none, some 0]]) (.seq [true, false]) false
    = .ok [[100, 1, 1, 0], [1, 0, 0, 100], [11, 10, 13, 12]] := by rfl

/-- `t.sort_by("a", reverse=True)`: descending, ties (rows 0 and 3) in input order, None last -/
example : tableSortByT gi Gen.sortFlagTable refSort 0 tcols 4 (.single (.str "a")) (.single true) true
    = .ok [[1, 1, 0, 100], [0, 0, 100, 1], [10, 13, 12, 11]] := by rfl

/-- refusals: empty key list, unknown name, a non-key, wrong number of flags, a key of another length, bad `by`, bad `reverse` -/
example : tableSortByT gi Gen.sortFlagTable refSort 0 tcols 4 (.seq []) (.single false) true = .error .value := by rfl
example : tableSortByT gi Gen.sortFlagTable refSort 0 tcols 4 (.seq [.str "a", .str "zz"]) (.single false) true = .error .key := by
  rfl
example : tableSortByT gi Gen.sortFlagTable refSort 0 tcols 4 (.seq [.other, .str "zz"]) (.single false) true = .error .type := by
  rfl
example : tableSortByT gi Gen.sortFlagTable refSort 0 tcols 4 (.single (.str "a")) (.seq [true, false]) true = .error .value := by
  rfl
example : tableSortByT gi Gen.sortFlagTable refSort 0 tcols 4 (.single (.vector [some 1])) (.single false) true = .error .value := by
  rfl
example : tableSortByT gi Gen.sortFlagTable refSort 0 tcols 4 .other (.single false) true = .error .type := by rfl
example : tableSortByT gi Gen.sortFlagTable refSort 0 tcols 4 (.single (.str "a")) .other true = .error .type := by rfl
/-- the error of `reverse` comes before the errors of the keys, the error of `by` before both -/
example : tableSortByT gi Gen.sortFlagTable refSort 0 tcols 4 (.single (.str "zz")) .other true = .error .type := by rfl
example : tableSortByT gi Gen.sortFlagTable refSort 0 tcols 4 (.seq []) .other true = .error .value := by rfl

/-- the empty-table shortcut -/
example : tableSortByT (fun _ => some []) Gen.sortFlagTable refSort 0 [[], [], ([] : List Nat)] 0 (.single (.str "a")) (.single true) true
    = .ok [[], [], []] := by rfl

/-- `Vector([1, None, True, 0, 1.0]).sort_by(reverse=True)` (the model's example), None replaced by a `0` that ranks anywhere -/
example : vectorSortByT Gen.sortFlagVector (some 7) refSort [(some 1, 1), (none, 0), (some 1, 2), (some 0, 3), (some 1, 4)] true true
    = [(some 1, 1), (some 1, 2), (some 1, 4), (some 0, 3), (none, 0)] := by decide +kernel

/-- the hypotheses of the theorems are satisfiable: `refSort` is a stable sort, the flags of this run are `flagOK` -/
example : StableSort (refSort (α := Nat)) ∧ StableSort (refSort (α := Elem)) ∧ flagOK Gen.sortFlagTable = true :=
  ⟨refSort_stable, refSort_stable, run_flags_ok.1⟩

example : validate 4 (byArgOf gi (.seq [.str "a", .vector [some 0, some 1, none, some 0]])) (revArgOf (.seq [true, false]))
    = .ok [([some 1, none, some 0, some 1], true), ([some 0, some 1, none, some 0], false)] := by rfl

/-- the separation hypothesis of `vectorSortBy_eq` holds for the flag of this run … -/
example (rev naLast : Bool) : Gen.sortFlagVector true rev naLast ≠ Gen.sortFlagVector false rev naLast :=
  flagOK_separates run_flags_ok.2 rev naLast

/-- … and it is not superfluous: with a constant flag the `0` that replaces None is compared with the values (the source then
    moves the None in front of the 1), which the model does not describe -/
example : vectorSortByT (fun _ _ _ => false) (some 0) refSort [(some 1, 0), (none, 1)] false true
    ≠ sortByVector (fun _ _ _ => false) false true [(some 1, 0), (none, 1)] := by decide +kernel

end Serif.Tie
