/-
  Translation tie for the fingerprint code: the loops of `Vector._compute_fingerprint_full` and of the list/tuple
  branch of `Vector._hash_element`, and the memo logic of `Vector.fingerprint` / `Table.fingerprint`, translated
  from the source (Gen.T.*), are what the model (Model/Fingerprint.lean, Model/ObjHeap.lean) computes — for every
  list of element hashes and every memo state.  Supplementary (see Serif/Tie/Typing.lean).
-/
import Serif.Gen.Translated
import Serif.Proofs.Fingerprint

namespace Serif.Tie
open Serif Serif.Gen.T

/-- all three translated loops are this fold (Python's `%` is `Int.fmod`), for the base and the starting value at hand -/
theorem foldl_fmod_eq (B t0 : Int) (hs : List Int) :
    hs.foldl (fun t x => Int.fmod (t * B + x) FP.P) t0 = FP.ev FP.P B t0 hs := by
  unfold FP.ev
  congr 1
  funext t x
  exact Int.fmod_eq_emod_of_nonneg _ (Int.natCast_nonneg Gen.FP_P)

/-- `Vector._compute_fingerprint_full`, translated, is the model's `fpVec` -/
theorem computeFingerprintFull_eq (hs : List Int) : computeFingerprintFullT FP.P FP.B hs = FP.fpVec hs :=
  foldl_fmod_eq FP.B 0 hs

/-- a `Table` runs the same loop over its columns' fingerprints with its own base `Table._FP_B` -/
theorem computeFingerprintFull_table_eq (fps : List Int) : computeFingerprintFullT FP.P FP.BT fps = FP.fpComb fps :=
  foldl_fmod_eq FP.BT 0 fps

/-- the translated starting value of the container branch is the accumulator the model reads off the behaviour, for every
    tabulated (kind, length) -/
theorem hashSequence_seed_eq :
    Gen.fpSeeds.all (fun e => decide (hashSequenceSeedT FP.P e.1.1 e.1.2 = e.2)) = true := by decide +kernel

/-- the translated container branch is the model's `Elem.hash` of a container wherever the translated starting value is the
    model's (`hashSequence_seed_eq`: on the whole table) -/
theorem hashSequence_eq (kind : Nat) (es : List FP.Elem)
    (hseed : hashSequenceSeedT FP.P kind es.length = FP.seedOf kind es.length) :
    hashSequenceT FP.P FP.B kind (es.map FP.Elem.hash) = (FP.Elem.seq kind es).hash := by
  rw [FP.Elem.hash_seq, ← hseed, ← List.length_map (f := FP.Elem.hash)]
  exact foldl_fmod_eq FP.B _ _

/-- the two starting values agree on sets, tuples and lists of up to six items (one evaluation of the 21 cases) -/
theorem seed_eq_small : ∀ kind ∈ [1, 2, 3], ∀ n ∈ List.range 7, hashSequenceSeedT FP.P kind n = FP.seedOf kind n := by
  decide +kernel

/-- … in particular for sets, tuples and lists of up to six items -/
theorem hashSequence_eq_small (kind : Nat) (hk : kind = 1 ∨ kind = 2 ∨ kind = 3) (es : List FP.Elem) (hlen : es.length ≤ 6) :
    hashSequenceT FP.P FP.B kind (es.map FP.Elem.hash) = (FP.Elem.seq kind es).hash := by
  have hk' : kind ∈ [1, 2, 3] := by simpa using hk
  have hn : es.length ∈ List.range 7 := List.mem_range.mpr (Nat.lt_succ_of_le hlen)
  exact hashSequence_eq kind es (seed_eq_small kind hk' _ hn)

/-- `Vector.fingerprint` answers from the memo when it is set and otherwise computes and memoises: exactly the
    model's `fingerprint` step on a vector object and its `fpRead` -/
theorem vectorFingerprint_eq (fpOf : VecVal → Int) (comb : List Int → Int) (h : Heap) (r o : Nat) (v : VecVal)
    (fp : Option Int) (hr : h.root r = some o) (ho : h.obj o = some (.vec v fp))
    (hc : Heap.Coherent fpOf h) :
    (vectorFingerprintT (fpOf v) fp).1 = Heap.fpRead fpOf comb h o ∧
    (Heap.step fpOf h (.fingerprint r)).objs o = some (.vec v (vectorFingerprintT (fpOf v) fp).2) := by
  cases fp with
  | none => simp [vectorFingerprintT, Heap.fpRead, Heap.step, hr, ho, Heap.upd]
  | some m =>
    -- the memo that is kept is the one a recomputation would set
    have : m = fpOf v := hc o v m ho
    simp [vectorFingerprintT, Heap.fpRead, Heap.step, hr, ho, Heap.upd, this]

/-- `Table.fingerprint` never answers from its own memo -/
theorem tableFingerprint_recomputes (compute : Int) (fp : Option Int) :
    (tableFingerprintT compute fp).1 = some compute := by
  simp [tableFingerprintT, vectorFingerprintT]

end Serif.Tie
