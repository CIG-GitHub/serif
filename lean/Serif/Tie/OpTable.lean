/-
  Translation tie for the operator table (C05, C07).  harness/tr/optable.py reads from the AST, for every arithmetic / comparison /
  logical / unary dunder of `Vector` and `Table`, the helper it calls and the Python operation and operand order of its operator function,
  and writes them on every run into `Serif/Gen/TranslatedOpTable.lean`: the tables `vectorOps` / `tableOps`, the operator functions
  `vectorBinFuncT` … over abstract operations (`pyL s a b` = Python's `a <s> b` with the element / column on the left, `pyR s b a` =
  `b <s> a` with the other operand on the left), `Vector.__radd__`'s own loops, the guard of `Vector.__invert__`, the value part of
  `Table._table_elementwise_operation`, and who defines what.

  `expectedVectorOps` / `expectedTableOps` say what the model expects: each dunder computes Python's operation of its name on the operands
  in the written order (`v.__rsub__(s)` is `s - v[i]`).  Each generated operator function *is* the lookup in the generated table (no
  string is compared); from a row and the helper ties of `Serif/Tie/Vec.lean` every dunder, whatever its name, is the model's `apply` /
  `compare` / `broadcast`; `__rand__` / `__ror__` / `__rxor__` keep the element on the left.  All statements are for every scalar
  semantics (`pyL`, `pyR`, `py1`: arbitrary functions that may raise), every vector and every operand.
  Supplementary (see Serif/Tie/Typing.lean).
-/
import Serif.Gen.TranslatedOpTable
import Serif.Gen.TranslatedVec
import Serif.Proofs.Vec
import Serif.Tie.Vec
import Serif.Proofs.Util

namespace Serif.Tie
open Serif Serif.Vec Serif.Gen.TOp Serif.Gen.TV

variable {α β γ : Type}

abbrev OpRow := String × HelperKind × OpSym × Bool

def expectedVectorOps : List OpRow := [
  ("__add__", .elementwiseOperation, .add, false),
  ("__sub__", .elementwiseOperation, .sub, false),
  ("__mul__", .elementwiseOperation, .mul, false),
  ("__truediv__", .elementwiseOperation, .truediv, false),
  ("__floordiv__", .elementwiseOperation, .floordiv, false),
  ("__mod__", .elementwiseOperation, .mod, false),
  ("__pow__", .elementwiseOperation, .pow, false),
  ("__radd__", .ownLoops, .add, true),
  ("__rsub__", .elementwiseOperation, .sub, true),
  ("__rmul__", .elementwiseOperation, .mul, true),
  ("__rtruediv__", .elementwiseOperation, .truediv, true),
  ("__rfloordiv__", .elementwiseOperation, .floordiv, true),
  ("__rmod__", .elementwiseOperation, .mod, true),
  ("__rpow__", .elementwiseOperation, .pow, true),
  ("bit_lshift", .elementwiseOperation, .lshift, false),
  ("bit_rshift", .elementwiseOperation, .rshift, false),
  ("__neg__", .unaryOperation, .neg, false),
  ("__pos__", .unaryOperation, .pos, false),
  ("__abs__", .unaryOperation, .abs, false),
  ("__invert__", .guardedUnaryOperation, .invert, false),
  ("__eq__", .elementwiseCompare, .eq, false),
  ("__ne__", .elementwiseCompare, .ne, false),
  ("__lt__", .elementwiseCompare, .lt, false),
  ("__le__", .elementwiseCompare, .le, false),
  ("__gt__", .elementwiseCompare, .gt, false),
  ("__ge__", .elementwiseCompare, .ge, false),
  ("__and__", .elementwiseCompare, .and_, false),
  ("__or__", .elementwiseCompare, .or_, false),
  ("__xor__", .elementwiseCompare, .xor, false),
  ("__rand__", .elementwiseCompare, .and_, false),
  ("__ror__", .elementwiseCompare, .or_, false),
  ("__rxor__", .elementwiseCompare, .xor, false)]

theorem vectorOps_rows : (∀ r ∈ vectorOps, expectedVectorOps.lookup r.1 = some r.2) ∧
    (∀ r ∈ expectedVectorOps, vectorOps.lookup r.1 = some r.2) := by decide +kernel

def orient (pyL : OpSym → α → β → Res γ) (pyR : OpSym → β → α → Res γ) (s : OpSym) (refl : Bool) : α → β → Res γ :=
  if refl then fun a b => pyR s b a else pyL s

/-- is the helper handed a two-operand operator function?  (`ownLoops` is handed none: `Vector.__radd__` applies `+` itself) -/
def takesBinFunc : HelperKind → Bool
  | .elementwiseOperation | .elementwiseCompare | .tableElementwiseOperation => true
  | _ => false

def takesUnFunc : HelperKind → Bool
  | .unaryOperation | .guardedUnaryOperation | .perColumn => true
  | _ => false

/-- the `if name = "…"` chain the translator prints (see below) -/
def lookupChain {V W : Type} (g : V → W) (name : String) : List (String × V) → Option W
  | [] => none
  | (k, v) :: l => if name = k then some (g v) else lookupChain g name l

theorem lookupChain_eq {V W : Type} (g : V → W) (name : String) (l : List (String × V)) :
    lookupChain g name l = (l.lookup name).map g := by
  induction l with
  | nil => rfl
  | cons r l ih => rw [lookupChain, List.lookup_cons_eq_ite, ih]; split <;> rfl

/-! The translator prints the operator functions of a class as one function of the method's name, an `if name = "…"` chain over the
    rows of the class's table that take such a function, in the order of the table.  So each of them *is* the lookup in the table,
    whatever the name: it is `lookupChain` of the table by unfolding, the tests being the same on both sides — no string is compared. -/

theorem vectorBinFuncT_eq (pyL : OpSym → α → β → Res γ) (pyR : OpSym → β → α → Res γ) (name : String) :
    vectorBinFuncT pyL pyR name
      = ((vectorOps.filter fun r => takesBinFunc r.2.1).lookup name).map fun r => orient pyL pyR r.2.1 r.2.2 := by
  rw [← lookupChain_eq]; rfl

theorem vectorUnFuncT_eq (py1 : OpSym → α → Res γ) (name : String) :
    vectorUnFuncT py1 name = ((vectorOps.filter fun r => takesUnFunc r.2.1).lookup name).map fun r => py1 r.2.1 := by
  rw [← lookupChain_eq]; rfl

theorem tableBinFuncT_eq (pyL : OpSym → α → β → Res γ) (pyR : OpSym → β → α → Res γ) (name : String) :
    tableBinFuncT pyL pyR name
      = ((tableOps.filter fun r => takesBinFunc r.2.1).lookup name).map fun r => orient pyL pyR r.2.1 r.2.2 := by
  rw [← lookupChain_eq]; rfl

theorem tableUnFuncT_eq (py1 : OpSym → α → Res γ) (name : String) :
    tableUnFuncT py1 name = ((tableOps.filter fun r => takesUnFunc r.2.1).lookup name).map fun r => py1 r.2.1 := by
  rw [← lookupChain_eq]; rfl

theorem func_of_lookup {W : Type} {F : String → Option W} {t : List OpRow} {sel : HelperKind → Bool}
    {g : HelperKind × OpSym × Bool → W} (hF : ∀ name, F name = ((t.filter fun r => sel r.2.1).lookup name).map g)
    {name : String} {row : HelperKind × OpSym × Bool} (h : t.lookup name = some row) (hk : sel row.1 = true) :
    F name = some (g row) := by
  rw [hF, List.lookup_filter_of_lookup h hk]; rfl

theorem zipAppendT_eq_zipCells {ρ : Type} (f : Option α → Option β → Res ρ) (xs : Col α) (ys : Col β) :
    zipAppendT f xs ys = zipCells f xs ys := by
  induction xs generalizing ys with
  | nil => cases ys <;> rfl
  | cons x xs ih =>
    cases ys with
    | nil => rfl
    | cons y ys =>
      simp only [zipAppendT, zipCells, ih]
      cases f x y with
      | error e => rfl
      | ok c => cases zipCells f xs ys <;> rfl

theorem forAppendT_eq_mapRes {ε ρ : Type} (f : ε → Res ρ) (l : List ε) : forAppendT f l = mapRes f l := by
  induction l with
  | nil => rfl
  | cons a as ih =>
    simp only [forAppendT, mapRes, ih]
    cases f a with
    | error e => rfl
    | ok c => cases mapRes f as <;> rfl

/-- `Vector._elementwise_operation` on a 1-D `self` as translated in `Serif/Gen/TranslatedVec.lean` (the left side of `elementwise_eq`) -/
def arithHelperT (f : α → β → Res γ) (xs : Col α) (o : Operand β) : Res (Col γ) :=
  arithBranchesT (match o with | .vec _ _ => true | _ => false) (match o with | .seq _ => true | _ => false)
    xs.length ((o.len?).getD 0)
    (match o with | .vec ys _ => zipCells (arithCellVecT f) xs ys | _ => .error .other)
    (match o with | .seq ys => zipCells (arithCellSeqT f) xs ys | _ => .error .other)
    (match o with | .scalar s => mapRes (arithCellScalarT f s) xs | _ => .error .other)

theorem arithHelperT_eq (f : α → β → Res γ) (xs : Col α) (o : Operand β) : arithHelperT f xs o = apply (cell f) xs o :=
  elementwise_eq f xs o

/-- `Vector._elementwise_compare` on a 1-D `self` as translated (the left side of `compare_eq`) -/
def cmpHelperT (f : α → β → Res Bool) (xs : Col α) (o : Operand β) : Res (List Bool) :=
  cmpBranchesT (match o with | .vec _ _ => true | _ => false) (match o with | .seq _ => true | _ => false)
    xs.length ((o.len?).getD 0)
    (match o with | .vec ys _ => zipCells (cmpCellVecT f) xs ys | _ => .error .other)
    (match o with | .seq ys => zipCells (cmpCellSeqT f) xs ys | _ => .error .other)
    (match o with | .scalar s => mapRes (cmpCellScalarT f s) xs | _ => .error .other)

theorem cmpHelperT_eq (f : α → β → Res Bool) (xs : Col α) (o : Operand β) : cmpHelperT f xs o = apply (cmpCell f) xs o :=
  compare_eq f xs o

/-- `Vector._unary_operation` as translated: `tuple(<unaryCellT> for x in self)` -/
def unaryHelperT (f : α → Res γ) (xs : Col α) : Res (Col γ) := mapRes (unaryCellT f) xs

theorem unaryHelperT_eq (f : α → Res γ) (xs : Col α) : unaryHelperT f xs = broadcast f xs := by
  have h : unaryCellT f = cell1 f := funext (unaryCell_eq f)
  unfold unaryHelperT broadcast
  rw [h]

/-- how `Vector.__radd__`'s `isinstance` tests answer for an operand of the model: a `Vector` takes the first branch whatever the
    others say; a `seq` is an iterable that is not str / bytes / bytearray; a `scalar` is everything else -/
def FlagsOk : Operand β → Bool → Bool → Prop
  | .vec _ _, _, _ => True
  | .seq _, it, tx => it = true ∧ tx = false
  | .scalar _, it, tx => (!it || tx) = true

/-- `Vector.__radd__` as translated: the branch structure over the three loops (`zip(other, self, strict=True)`: the OTHER operand's
    elements are the first argument of the step, which the types enforce) -/
def raddRunT (pyL : OpSym → α → β → Res γ) (pyR : OpSym → β → α → Res γ) (xs : Col α) (o : Operand β) (it tx : Bool) : Res (Col γ) :=
  raddBranchesT (match o with | .vec _ _ => true | _ => false) it tx xs.length ((o.len?).getD 0)
    (match o with | .vec ys _ => zipAppendT (raddVecStepT pyL pyR) ys xs | _ => .error .other)
    (match o with | .scalar s => forAppendT (raddScalarStepT pyL pyR s) xs | _ => .error .other)
    (match o with | .seq ys => zipAppendT (raddSeqStepT pyL pyR) ys xs | _ => .error .other)

theorem raddVecStep_eq (pyL : OpSym → α → β → Res γ) (pyR : OpSym → β → α → Res γ) :
    raddVecStepT pyL pyR = cell (pyR .add) := by
  funext x y; cases x <;> cases y <;> rfl

theorem raddSeqStep_eq (pyL : OpSym → α → β → Res γ) (pyR : OpSym → β → α → Res γ) :
    raddSeqStepT pyL pyR = cell (pyR .add) := by
  funext x y; cases x <;> cases y <;> rfl

theorem raddScalarStep_eq (pyL : OpSym → α → β → Res γ) (pyR : OpSym → β → α → Res γ) (s : β) :
    raddScalarStepT pyL pyR s = fun x => cell (pyR .add) (some s) x := by
  funext x; cases x <;> rfl

/-- **`Vector.__radd__` translated statement by statement is the model's `radd`** with Python's `+` in the written order
    (`other`'s element on the left) -/
theorem radd_eq (pyL : OpSym → α → β → Res γ) (pyR : OpSym → β → α → Res γ) (xs : Col α) (o : Operand β) (it tx : Bool)
    (hf : FlagsOk o it tx) : raddRunT pyL pyR xs o it tx = radd (pyR .add) xs o := by
  cases o with
  | vec ys d =>
    simp [raddRunT, raddBranchesT, radd, Operand.len?, raddVecStep_eq, zipAppendT_eq_zipCells]
  | seq ys =>
    obtain ⟨h1, h2⟩ := hf
    subst h1; subst h2
    simp [raddRunT, raddBranchesT, radd, Operand.len?, raddSeqStep_eq, zipAppendT_eq_zipCells]
  | scalar s =>
    have hf' : (!it || tx) = true := hf
    simp [raddRunT, raddBranchesT, radd, hf', raddScalarStep_eq, forAppendT_eq_mapRes]

/-- the only method with loops of its own is `__radd__`, and they compute `other + element` -/
theorem ownLoops_row : ∀ r ∈ vectorOps, r.2.1 = .ownLoops → r = ("__radd__", .ownLoops, .add, true) := by decide +kernel

theorem raddZip_other_first : raddZipOtherFirst = (true, true) := by decide +kernel

/-- the per-pair rule of a row: the element `x` of the vector and the element `y` of the other operand, Python's operation applied
    in the operand order the row records -/
theorem cell_orient (pyL : OpSym → α → β → Res γ) (pyR : OpSym → β → α → Res γ) (s : OpSym) (refl : Bool) :
    cell (orient pyL pyR s refl) = fun x y => if refl then cell (pyR s) y x else cell (pyL s) x y := by
  funext x y
  cases refl with
  | false => rfl
  | true => exact cell_rev (pyR s) x y

/-- run an arithmetic method of `Vector` (1-D `self`) as the generated table and terms say: the translated helper
    `_elementwise_operation` on the translated operator function, or `__radd__`'s own translated loops -/
def vectorArithT (pyL : OpSym → α → β → Res γ) (pyR : OpSym → β → α → Res γ) (name : String) (xs : Col α) (o : Operand β)
    (it tx : Bool) : Option (Res (Col γ)) :=
  match vectorOps.lookup name with
  | some (.elementwiseOperation, _, _) => (vectorBinFuncT pyL pyR name).map (fun f => arithHelperT f xs o)
  | some (.ownLoops, _, _) => some (raddRunT pyL pyR xs o it tx)
  | _ => none

/-- **every arithmetic method of the table, whatever its name**: it is the strict zip / scalar map of the model (`apply`) over the
    per-pair rule of its row -/
theorem vector_arith_dunder_eq (pyL : OpSym → α → β → Res γ) (pyR : OpSym → β → α → Res γ) {name : String} {helper : HelperKind}
    {sym : OpSym} {refl : Bool} (h : vectorOps.lookup name = some (helper, sym, refl))
    (hk : helper = .elementwiseOperation ∨ helper = .ownLoops) (xs : Col α) (o : Operand β) (it tx : Bool) (hf : FlagsOk o it tx) :
    vectorArithT pyL pyR name xs o it tx = some (apply (cell (orient pyL pyR sym refl)) xs o) := by
  rcases hk with rfl | rfl
  · have hfn : vectorBinFuncT pyL pyR name = some (orient pyL pyR sym refl) :=
      func_of_lookup (vectorBinFuncT_eq pyL pyR) h rfl
    simp only [vectorArithT, h, hfn, Option.map, arithHelperT_eq]
  · have hr := ownLoops_row _ (List.mem_of_lookup_eq_some h) rfl
    simp only [Prod.mk.injEq] at hr
    obtain ⟨-, -, rfl, rfl⟩ := hr
    simp only [vectorArithT, h, radd_eq pyL pyR xs o it tx hf, radd_eq_apply, cell_orient]
    rfl

/-- … and so element `i` of its result is Python's operation of the row on the i-th operands, the OTHER operand on the left exactly when
    the row says so; None gives None -/
theorem vector_arith_dunder_pointwise (pyL : OpSym → α → β → Res γ) (pyR : OpSym → β → α → Res γ) {name : String}
    {helper : HelperKind} {sym : OpSym} {refl : Bool} (h : vectorOps.lookup name = some (helper, sym, refl))
    (hk : helper = .elementwiseOperation ∨ helper = .ownLoops) {xs : Col α} {o : Operand β} {it tx : Bool} (hf : FlagsOk o it tx)
    {r : Col γ} (hrun : vectorArithT pyL pyR name xs o it tx = some (.ok r)) {i : Nat} {x : Option α} (hx : xs[i]? = some x) :
    ∃ y c, o.get? i = some y ∧ r[i]? = some c ∧
      (if refl then IsCellOf (pyR sym) y x c else IsCellOf (pyL sym) x y c) := by
  rw [vector_arith_dunder_eq pyL pyR h hk xs o it tx hf, cell_orient] at hrun
  have hrun' := Option.some.inj hrun
  obtain ⟨y, c, hy, hr, hc⟩ := apply_ok_getElem? hrun' hx
  refine ⟨y, c, hy, hr, ?_⟩
  cases refl <;> exact cell_ok_iff.mp hc

/-- the method Python's data model calls for `v <o> other` (`refl = false`) and for `other <o> v` when `other` does not answer
    (`refl = true`); `Tie.dunder` in Serif/Tie/DateOps.lean is the same function -/
def dunderName : BinOp → Bool → String
  | .add, false => "__add__" | .sub, false => "__sub__" | .mul, false => "__mul__" | .truediv, false => "__truediv__"
  | .floordiv, false => "__floordiv__" | .mod, false => "__mod__" | .pow, false => "__pow__"
  | .add, true => "__radd__" | .sub, true => "__rsub__" | .mul, true => "__rmul__" | .truediv, true => "__rtruediv__"
  | .floordiv, true => "__rfloordiv__" | .mod, true => "__rmod__" | .pow, true => "__rpow__"

/-- the model's operator symbols among the translator's -/
def symOf : BinOp → OpSym
  | .add => .add | .sub => .sub | .mul => .mul | .truediv => .truediv | .floordiv => .floordiv | .mod => .mod | .pow => .pow

def binOf : OpSym → Option BinOp
  | .add => some .add | .sub => some .sub | .mul => some .mul | .truediv => some .truediv | .floordiv => some .floordiv
  | .mod => some .mod | .pow => some .pow | _ => none

/-- Python's scalar semantics of the model (`py o a b` = `a <o> b`) as the oracle of the translated terms -/
def pyOf {ρ : Type} (py : BinOp → α → β → Res ρ) : OpSym → α → β → Res ρ :=
  fun s a b => match binOf s with
    | some o => py o a b
    | none => .error .other

theorem pyOf_symOf {ρ : Type} (py : BinOp → α → β → Res ρ) (o : BinOp) : pyOf py (symOf o) = py o := by
  cases o <;> rfl

/-- the seven operators, for statements about all of them that are checked by evaluation -/
def binOps : List BinOp := [.add, .sub, .mul, .truediv, .floordiv, .mod, .pow]

theorem mem_binOps (o : BinOp) : o ∈ binOps := by cases o <;> decide

/-- the row of the method named for `<o>`: it hands Python's `<o>` to `_elementwise_operation` (or, `__radd__`, loops itself), the other
    operand on the left exactly for the reflected names -/
theorem binary_row (o : BinOp) (refl : Bool) :
    ∃ helper, vectorOps.lookup (dunderName o refl) = some (helper, symOf o, refl) ∧
      (helper = .elementwiseOperation ∨ helper = .ownLoops) := by
  have all : ∀ o ∈ binOps, ∀ refl ∈ [false, true], ∃ helper ∈ [HelperKind.elementwiseOperation, .ownLoops],
      vectorOps.lookup (dunderName o refl) = some (helper, symOf o, refl) := by decide +kernel
  obtain ⟨helper, hk, hrow⟩ := all o (mem_binOps o) refl (by cases refl <;> decide)
  exact ⟨helper, hrow, by simpa using hk⟩

/-- **`v <o> other` and `other <o> v` as the source spells them (table row, operator function, helper) are the model's `binary`** -/
theorem vector_binary_eq (py : BinOp → α → α → Res α) (o : BinOp) (refl : Bool) (xs : Col α) (other : Operand α) (it tx : Bool)
    (hf : FlagsOk other it tx) :
    vectorArithT (pyOf py) (pyOf py) (dunderName o refl) xs other it tx = some (binary py o refl xs other) := by
  obtain ⟨helper, hrow, hk⟩ := binary_row o refl
  rw [vector_arith_dunder_eq (pyOf py) (pyOf py) hrow hk xs other it tx hf, cell_orient, pyOf_symOf, binary_eq_apply]

/-- run a comparison / logical method of `Vector` (1-D `self`): the translated `_elementwise_compare` on the translated operator
    function, the result wrapped as a non-nullable bool vector; `pyL s a b` is `bool(a <s> b)` -/
def vectorCompareT (pyL : OpSym → α → β → Res Bool) (pyR : OpSym → β → α → Res Bool) (name : String) (xs : Col α) (o : Operand β) :
    Option (Res BoolVec) :=
  match vectorOps.lookup name with
  | some (.elementwiseCompare, _, _) => (vectorBinFuncT pyL pyR name).map (fun f => toBoolVec (cmpHelperT f xs o))
  | _ => none

/-- every comparison / logical method applies Python's operation with the vector's ELEMENT on the left -- also `__rand__`, `__ror__`,
    `__rxor__`, which Python calls for `other & v`: they compute `bool(element & other)`, not `bool(other & element)` (the same value
    wherever the elements' `&`, `|`, `^` commute, as they do for bool and int) -/
theorem compare_rows_element_left : ∀ r ∈ vectorOps, r.2.1 = .elementwiseCompare → r.2.2.2 = false := by decide +kernel

/-- **every comparison / logical method of the table is the model's `compare`** on Python's operation of its row, the element on the left -/
theorem vector_compare_dunder_eq (pyL : OpSym → α → β → Res Bool) (pyR : OpSym → β → α → Res Bool) {name : String} {sym : OpSym}
    {refl : Bool} (h : vectorOps.lookup name = some (.elementwiseCompare, sym, refl)) (xs : Col α) (o : Operand β) :
    vectorCompareT pyL pyR name xs o = some (compare (pyL sym) xs o) := by
  have hrefl : refl = false := compare_rows_element_left _ (List.mem_of_lookup_eq_some h) rfl
  subst hrefl
  have hfn : vectorBinFuncT pyL pyR name = some (orient pyL pyR sym false) :=
    func_of_lookup (vectorBinFuncT_eq pyL pyR) h rfl
  simp only [vectorCompareT, h, hfn, Option.map, cmpHelperT_eq, orient]
  rfl

/-- … element `i` of the mask is Python's own `bool(x <sym> y)` on the i-th operands, False where either is None -/
theorem vector_compare_dunder_pointwise (pyL : OpSym → α → β → Res Bool) (pyR : OpSym → β → α → Res Bool) {name : String} {sym : OpSym}
    {refl : Bool} (h : vectorOps.lookup name = some (.elementwiseCompare, sym, refl)) {xs : Col α} {o : Operand β} {r : BoolVec}
    (hrun : vectorCompareT pyL pyR name xs o = some (.ok r)) :
    r.dtype = boolDType ∧
    ∀ (i : Nat) (x : Option α), xs[i]? = some x → ∃ y b, o.get? i = some y ∧ r.data[i]? = some b ∧ cmpCell (pyL sym) x y = .ok b := by
  rw [vector_compare_dunder_eq pyL pyR h xs o] at hrun
  obtain ⟨bs, hz, rfl⟩ := toBoolVec_ok (Option.some.inj hrun)
  refine ⟨rfl, fun i x hx => ?_⟩
  obtain ⟨y, c, hy, hr, hc⟩ := apply_ok_getElem? hz hx
  exact ⟨y, c, hy, hr, hc⟩

/-- the names of the table that Python calls with the operands swapped -/
def reflectedNames : List String :=
  ["__radd__", "__rsub__", "__rmul__", "__rtruediv__", "__rfloordiv__", "__rmod__", "__rpow__", "__rand__", "__ror__", "__rxor__"]

/-- the written operand order: every row but the three reflected logical ones puts the other operand on the left exactly when its
    name is a reflected one -/
theorem written_order_rows :
    ∀ r ∈ vectorOps, r.1 ∉ ["__rand__", "__ror__", "__rxor__"] → r.2.2.2 = reflectedNames.contains r.1 := by decide +kernel

/-- for the three reflected logical methods the written order (`other & element`) is what is computed whenever Python's operation
    commutes on the operands -/
theorem reflected_logical_written_order (py : OpSym → α → α → Res Bool) (sym : OpSym) (hc : ∀ a b, py sym a b = py sym b a)
    (xs : Col α) (o : Operand α) : compare (py sym) xs o = compare (fun a b => py sym b a) xs o := by
  have : py sym = fun a b => py sym b a := by funext a b; exact hc a b
  rw [← this]

/-- run a unary method of `Vector` through the translated `_unary_operation` (for `__invert__`: when its guard does not fire) -/
def vectorUnaryT (py1 : OpSym → α → Res γ) (name : String) (xs : Col α) : Option (Res (Col γ)) :=
  match vectorOps.lookup name with
  | some (.unaryOperation, _, _) => (vectorUnFuncT py1 name).map (fun f => unaryHelperT f xs)
  | some (.guardedUnaryOperation, _, _) => (vectorUnFuncT py1 name).map (fun f => unaryHelperT f xs)
  | _ => none

/-- **every unary method of the table is the model's `broadcast`** of Python's unary operation of its row -/
theorem vector_unary_dunder_eq (py1 : OpSym → α → Res γ) {name : String} {helper : HelperKind} {sym : OpSym} {refl : Bool}
    (h : vectorOps.lookup name = some (helper, sym, refl)) (hk : helper = .unaryOperation ∨ helper = .guardedUnaryOperation)
    (xs : Col α) : vectorUnaryT py1 name xs = some (broadcast (py1 sym) xs) := by
  have hfn : vectorUnFuncT py1 name = some (py1 sym) :=
    func_of_lookup (vectorUnFuncT_eq py1) h (by rcases hk with rfl | rfl <;> rfl)
  rcases hk with rfl | rfl <;> simp only [vectorUnaryT, h, hfn, Option.map, unaryHelperT_eq]

theorem invert_row : vectorOps.lookup "__invert__" = some (.guardedUnaryOperation, .invert, false) := by decide +kernel

/-- additional definition (the model has no `~`): `~v` is the logical NOT (`not x`, None included, non-nullable bool) on a vector whose
    dtype is of kind bool, and the broadcast of Python's `~` otherwise -/
def invertSpec (py_not : Option α → Bool) (inv : α → Res γ) (v : Vec α) : BoolVec ⊕ Res (Col γ) :=
  if kindIs v.dtype .bool then .inl { data := v.data.map py_not, dtype := boolDType } else .inr (broadcast inv v.data)

/-- `Vector.__invert__` as translated: the guard, the guarded answer, else the row's `_unary_operation` -/
def vectorInvertT (truthy_dtype : DType → Bool) (py_not : Option α → Bool) (py1 : OpSym → α → Res γ) (v : Vec α) :
    Option (BoolVec ⊕ Res (Col γ)) :=
  if invertGuardT truthy_dtype v.dtype then
    some (.inl { data := (invertNotT py_not v.data).1, dtype := (invertNotT py_not v.data).2 })
  else (vectorUnaryT py1 "__invert__" v.data).map .inr

theorem invert_eq (truthy_dtype : DType → Bool) (ht : ∀ d, truthy_dtype d = true) (py_not : Option α → Bool)
    (py1 : OpSym → α → Res γ) (v : Vec α) :
    vectorInvertT truthy_dtype py_not py1 v = some (invertSpec py_not (py1 .invert) v) := by
  have hg : invertGuardT truthy_dtype v.dtype = kindIs v.dtype .bool := by
    unfold invertGuardT kindIs
    cases v.dtype with
    | none => rfl
    | some d => simp [ht]
  unfold vectorInvertT invertSpec
  rw [hg, vector_unary_dunder_eq py1 invert_row (Or.inr rfl)]
  cases kindIs v.dtype .bool <;> rfl

def expectedTableOps : List OpRow := [
  ("__add__", .tableElementwiseOperation, .add, false),
  ("__sub__", .tableElementwiseOperation, .sub, false),
  ("__mul__", .tableElementwiseOperation, .mul, false),
  ("__truediv__", .tableElementwiseOperation, .truediv, false),
  ("__floordiv__", .tableElementwiseOperation, .floordiv, false),
  ("__mod__", .tableElementwiseOperation, .mod, false),
  ("__pow__", .tableElementwiseOperation, .pow, false),
  ("__radd__", .tableElementwiseOperation, .add, true),
  ("__rsub__", .tableElementwiseOperation, .sub, true),
  ("__rmul__", .tableElementwiseOperation, .mul, true),
  ("__rtruediv__", .tableElementwiseOperation, .truediv, true),
  ("__rfloordiv__", .tableElementwiseOperation, .floordiv, true),
  ("__rmod__", .tableElementwiseOperation, .mod, true),
  ("__rpow__", .tableElementwiseOperation, .pow, true),
  ("__neg__", .perColumn, .neg, false),
  ("__pos__", .perColumn, .pos, false),
  ("__abs__", .perColumn, .abs, false),
  ("__invert__", .perColumn, .invert, false)]

theorem tableOps_rows : (∀ r ∈ tableOps, expectedTableOps.lookup r.1 = some r.2) ∧
    (∀ r ∈ expectedTableOps, tableOps.lookup r.1 = some r.2) := by decide +kernel

/-- who defines what: `Table` inherits the comparison / logical methods (and redefines their helper `_elementwise_compare`, C07's
    table comparisons), the other classes define only `_Date.__add__` and `_Date._elementwise_compare` (tied in `Serif/Tie/DateOps.lean`),
    `<<` / `>>` / `@` have bodies of their own -/
theorem who_defines_what :
    tableHelperOverrides = ["_elementwise_compare"] ∧ subclassDunders = [("_Date", "__add__")] ∧
    subclassHelperOverrides = [("_Date", "_elementwise_compare")] ∧
    vectorHelpers = ["_elementwise_operation", "_elementwise_compare", "_unary_operation"] ∧
    (∀ n ∈ vectorOwnBodies ++ tableOwnBodies, n ∈ ["__lshift__", "__rshift__", "__rlshift__", "__rrshift__", "__matmul__", "__rmatmul__"]) ∧
    (∀ r ∈ expectedTableOps, r.1 ∉ tableInherited) ∧
    (∀ n ∈ ["__eq__", "__ne__", "__lt__", "__le__", "__gt__", "__ge__", "__and__", "__or__", "__xor__", "__rand__", "__ror__", "__rxor__"],
      n ∈ tableInherited) := by decide +kernel

/-- run `table <o> other` / `other <o> table` for a non-Table operand: the translated scalar branch of `_table_elementwise_operation`
    on the translated operator function; `pyL s col o` is Python's `col <s> o`, `pyR s o col` is Python's `o <s> col` -/
def tableArithT {C O R : Type} (pyL : OpSym → C → O → Res R) (pyR : OpSym → O → C → Res R) (name : String) (cols : List C) (other : O) :
    Option (Res (List R)) :=
  match tableOps.lookup name with
  | some (.tableElementwiseOperation, _, _) => (tableBinFuncT pyL pyR name).map (fun f => tableScalarBranchT f cols other)
  | _ => none

/-- `table <o> table`: the translated Table branch (width check, then column by column) -/
def tableTableT {C R : Type} (pyL : OpSym → C → C → Res R) (pyR : OpSym → C → C → Res R) (name : String) (a b : List C) :
    Option (Res (List R)) :=
  match tableOps.lookup name with
  | some (.tableElementwiseOperation, _, _) => (tableBinFuncT pyL pyR name).map (fun f => tableTableBranchT f a b)
  | _ => none

theorem table_arith_dunder_eq {C O R : Type} (pyL : OpSym → C → O → Res R) (pyR : OpSym → O → C → Res R) {name : String} {sym : OpSym}
    {refl : Bool} (h : tableOps.lookup name = some (.tableElementwiseOperation, sym, refl)) (cols : List C) (other : O) :
    tableArithT pyL pyR name cols other = some (mapRes (fun c => orient pyL pyR sym refl c other) cols) := by
  have hfn : tableBinFuncT pyL pyR name = some (orient pyL pyR sym refl) :=
    func_of_lookup (tableBinFuncT_eq pyL pyR) h rfl
  simp only [tableArithT, h, hfn, Option.map, tableScalarBranchT, forAppendT_eq_mapRes]

theorem table_table_dunder_eq {C R : Type} (pyL : OpSym → C → C → Res R) (pyR : OpSym → C → C → Res R) {name : String} {sym : OpSym}
    {refl : Bool} (h : tableOps.lookup name = some (.tableElementwiseOperation, sym, refl)) (a b : List C) :
    tableTableT pyL pyR name a b =
      some (if a.length ≠ b.length then .error .value else mapRes (fun p => orient pyL pyR sym refl p.1 p.2) (a.zip b)) := by
  have hfn : tableBinFuncT pyL pyR name = some (orient pyL pyR sym refl) :=
    func_of_lookup (tableBinFuncT_eq pyL pyR) h rfl
  simp only [tableTableT, h, hfn, Option.map, tableTableBranchT, forAppendT_eq_mapRes]
  by_cases hl : a.length = b.length <;> simp [hl]

theorem table_binary_row (o : BinOp) (refl : Bool) :
    tableOps.lookup (dunderName o refl) = some (.tableElementwiseOperation, symOf o, refl) := by
  have all : ∀ o ∈ binOps, ∀ refl ∈ [false, true],
      tableOps.lookup (dunderName o refl) = some (.tableElementwiseOperation, symOf o, refl) := by decide +kernel
  exact all o (mem_binOps o) refl (by cases refl <;> decide)

/-- Python's `col <o> other` / `other <o> col` on a column, as the model has it (`vectorBinary`, class dispatch included) -/
def colL (S : Sem α) : OpSym → Vec α → Operand α → Res (Col α) :=
  pyOf (fun o c other => vectorBinary S o false c other)
def colR (S : Sem α) : OpSym → Operand α → Vec α → Res (Col α) :=
  pyOf (fun o other c => vectorBinary S o true c other)

/-- **`table <o> other` and `other <o> table` as the source spells them are the model's `tableScalar` / `tableScalarRefl`** -/
theorem table_scalar_eq (S : Sem α) (o : BinOp) (refl : Bool) (cols : List (Vec α)) (other : Operand α) :
    tableArithT (colL S) (colR S) (dunderName o refl) cols other =
      some (if refl then tableScalarRefl S o cols other else tableScalar S o cols other) := by
  rw [table_arith_dunder_eq (colL S) (colR S) (table_binary_row o refl)]
  cases refl with
  | false => simp only [orient, colL, pyOf_symOf]; rfl
  | true => simp only [orient, colR, pyOf_symOf]; rfl

/-- **`table <o> table` as the source spells it is the model's `tableTable`** -/
theorem table_table_eq (S : Sem α) (o : BinOp) (a b : List (Vec α)) :
    tableTableT (pyOf (fun o (c d : Vec α) => vectorBinary S o false c (.vec d.data d.dtype)))
      (pyOf (fun o (d c : Vec α) => vectorBinary S o true c (.vec d.data d.dtype))) (dunderName o false) a b =
      some (tableTable S o a b) := by
  rw [table_table_dunder_eq _ _ (table_binary_row o false)]
  simp only [orient, pyOf_symOf, tableTable]
  rfl

/-- run `-table`, `+table`, `abs(table)`, `~table`: `Table(tuple(<op> col for col in self.cols()))` -/
def tableUnaryT {C R : Type} (py1 : OpSym → C → Res R) (name : String) (cols : List C) : Option (Res (List R)) :=
  match tableOps.lookup name with
  | some (.perColumn, _, _) => (tableUnFuncT py1 name).map (fun f => forAppendT f cols)
  | _ => none

theorem table_unary_dunder_eq {C R : Type} (py1 : OpSym → C → Res R) {name : String} {sym : OpSym} {refl : Bool}
    (h : tableOps.lookup name = some (.perColumn, sym, refl)) (cols : List C) :
    tableUnaryT py1 name cols = some (mapRes (py1 sym) cols) := by
  have hfn : tableUnFuncT py1 name = some (py1 sym) := func_of_lookup (tableUnFuncT_eq py1) h rfl
  simp only [tableUnaryT, h, hfn, Option.map, forAppendT_eq_mapRes]

/-- **`-table`, `+table`, `abs(table)` are the model's `tableUnary`**: the column operation is the vector method of the same name,
    which `vector_unary_dunder_eq` ties to `broadcast` -/
theorem table_unary_eq (f : OpSym → α → Res γ) {name : String} {sym : OpSym} {refl : Bool}
    (h : tableOps.lookup name = some (.perColumn, sym, refl)) (hv : vectorOps.lookup name = some (.unaryOperation, sym, refl))
    (cols : List (Vec α)) :
    tableUnaryT (fun _ (c : Vec α) => (vectorUnaryT f name c.data).getD (.error .other)) name cols = some (tableUnary (f sym) cols) := by
  rw [table_unary_dunder_eq _ h]
  have : (fun (c : Vec α) => (vectorUnaryT f name c.data).getD (.error .other)) = fun c => broadcast (f sym) c.data := by
    funext c
    rw [vector_unary_dunder_eq f hv (Or.inl rfl)]
    rfl
  rw [this]
  rfl

/-- the three per-column rows that have a plain vector method behind them -/
theorem table_unary_rows : ∀ p ∈ [("__neg__", OpSym.neg), ("__pos__", OpSym.pos), ("__abs__", OpSym.abs)],
    tableOps.lookup p.1 = some (.perColumn, p.2, false) ∧ vectorOps.lookup p.1 = some (.unaryOperation, p.2, false) := by decide +kernel

/-- a small scalar semantics on `Int` (division raises on zero, everything unknown is a TypeError) -/
def demoPy : OpSym → Int → Int → Res Int
  | .add, a, b => .ok (a + b)
  | .sub, a, b => .ok (a - b)
  | .mul, a, b => .ok (a * b)
  | .floordiv, a, b => if b = 0 then .error .other else .ok (a / b)
  | _, _, _ => .error .type

def demoCmp : OpSym → Int → Int → Res Bool
  | .lt, a, b => .ok (decide (a < b))
  | .eq, a, b => .ok (decide (a = b))
  | .and_, a, b => .ok (decide (a ≠ 0 ∧ b ≠ 0))
  | _, _, _ => .error .type

example : FlagsOk (.scalar (3 : Int)) false false := rfl
example : FlagsOk (.seq [some (1 : Int)]) true false := ⟨rfl, rfl⟩
example : FlagsOk (.vec [some (1 : Int)] none) true false := trivial

-- `10 - v`: the other operand on the left
example : vectorArithT demoPy demoPy "__rsub__" [some 1, none, some 5] (.scalar 10) false false
    = some (.ok [some 9, none, some 5]) := by decide +kernel
-- `v - 10`
example : vectorArithT demoPy demoPy "__sub__" [some 1, none, some 5] (.scalar 10) false false
    = some (.ok [some (-9), none, some (-5)]) := by decide +kernel
-- `[10, 20, 30] + v` through `__radd__`'s own loops; a length difference raises ValueError
example : vectorArithT demoPy demoPy "__radd__" [some 1, none, some 5] (.seq [some 10, some 20, some 30]) true false
    = some (.ok [some 11, none, some 35]) := by decide +kernel
example : vectorArithT demoPy demoPy "__radd__" [some 1, none, some 5] (.seq [some 10]) true false
    = some (.error .value) := by decide +kernel
-- `12 // v` raises where Python raises
example : vectorArithT demoPy demoPy "__rfloordiv__" [some 4, some 0] (.scalar 12) false false = some (.error .other) := by decide +kernel
example : vectorArithT demoPy demoPy "__rfloordiv__" [some 4, some 5] (.vec [some 12, some 11] none) false false
    = some (.ok [some 3, some 2]) := by decide +kernel
-- a name that is not an arithmetic method of the table
example : vectorArithT demoPy demoPy "__lshift__" [some 4] (.scalar 12) false false = none := by decide +kernel
example : (vectorCompareT demoCmp demoCmp "__lt__" [some 1, none, some 5] (.scalar 3)).map (·.toOption.map (·.data))
    = some (some [true, false, false]) := by decide +kernel
example : (vectorCompareT demoCmp demoCmp "__rand__" [some 1, none, some 0] (.seq [some 1, some 1, some 1])).map (·.toOption.map (·.data))
    = some (some [true, false, false]) := by decide +kernel
example : tableArithT (colL ⟨fun o => demoPy (symOf o), fun a b => .ok (a + b), fun _ => true⟩)
      (colR ⟨fun o => demoPy (symOf o), fun a b => .ok (a + b), fun _ => true⟩) "__rsub__"
      [⟨[some 1, some 2], none⟩, ⟨[none, some 4], none⟩] (.scalar 10)
    = some (.ok [[some 9, some 8], [none, some 6]]) := by decide +kernel
example : tableUnaryT (fun _ (c : Vec Int) => broadcast (fun a => demoPy .sub 0 a) c.data) "__neg__" [⟨[some 1, none], none⟩]
    = some (.ok [[some (-1), none]]) := by decide +kernel

end Serif.Tie
