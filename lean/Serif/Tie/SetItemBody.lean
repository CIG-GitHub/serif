/-
  Translation tie for the rest of `Vector.__setitem__` and for `Vector._promote` (C08; the "promotion on assignment" clause of C03):
  harness/tr/setitembody.py translates, statement by statement and in source order, into `Serif/Gen/TranslatedSetItemBody.lean`.
  The translated key dispatch (with `typeutils.slice_length`), `_promote`, the block `if updates:`, the write loop and the method
  are the model's `buildUpdates`, `promoteState`, `typePhase`, `applyUpdates` and `setitem`, for every state, key, value, sharing
  flag, `_PROMOTABLE` relation and conversion oracle; so `C08.vector_atomic` & co. are theorems about the translated code: no
  field, and not the class, is assigned before the last step that can raise.

  Oracles (fields of `Gen.SB.Ops`, instantiated with the model's own functions in `modelOps`): the outcome of
  `_alias.check_writable` (`shared` → AliasError; the tracker has its own tie, Tie/AliasTracker.lean), `slice.indices`
  (`sliceIndices`), `range` (`rangeList`), the loop `for val in new_values` (`foldTarget`, tied in Tie/Assign.lean), the element
  constructors (`conv`).  Not translated (object identity): `_check_duplicate`, `id(…)`, the tracker's `unregister` / `register`
  — their position among the stores is recorded in `setitemSequenceT` / `promoteSequenceT` and checked by two `example`s below.
  Definitions added here to state the tie: `toNatUps` (translated positions are Python ints, the model's are naturals), `emap`,
  `stepOf` / `normI` / `okI` (the canonical form of a translated loop body), `pairUpT`, `InB`, `classAfter` (the model's state has no class
  component: the class after an assignment is a function of the dtype before and after).
  Supplementary (see Serif/Tie/Typing.lean).
-/
import Serif.Gen.TranslatedSetItemBody
import Serif.Model.Assign
import Serif.Proofs.Assign

namespace Serif.Tie
open Serif Serif.Assign Serif.Gen.SB

/-- Tie/TableAssign.lean declares another `Serif.Tie.modelOps`: the two modules cannot be imported together. -/
def modelOps (P : Kind → Kind → Bool) (conv : Kind → Nat → Option Nat) (shared : Bool) : Ops where
  check_writable := if shared then some Err.alias else none
  slice_indices := fun s n => sliceIndices s.1 s.2.1 s.2.2 n
  range := rangeList
  target_of := foldTarget P conv
  conv := conv

def toNatUps (ups : List (Int × Cell)) : List (Nat × Cell) := ups.map (fun u => (u.1.toNat, u.2))

def stepOf {κ : Type} (norm : κ → Except Err Int) (updates : List (Int × Cell)) (k : κ) (c : Cell) :
    Except Err (List (Int × Cell)) :=
  match norm k with
  | .error e => .error e
  | .ok p => .ok (updates ++ [(p, c)])

def normI (n : Nat) (i : Int) : Except Err Int :=
  let j := if i < 0 then i + (n : Int) else i
  if 0 ≤ j ∧ j < (n : Int) then .ok j else .error Err.index

def okI (i : Int) : Except Err Int := .ok i

/-- `Except.map`, with the two equations as simp lemmas -/
def emap {α β : Type} (f : α → β) : Except Err α → Except Err β
  | .error e => .error e
  | .ok a => .ok (f a)

@[simp] theorem emap_ok {α β : Type} (f : α → β) (a : α) : emap f (.ok a : Except Err α) = .ok (f a) := rfl
@[simp] theorem emap_error {α β : Type} (f : α → β) (e : Err) : emap f (.error e : Except Err α) = .error e := rfl

theorem rematch {α : Type} (x : Except Err α) :
    (match x with | .error e => .error e | .ok u => .ok u) = x := by cases x <;> rfl

theorem emap_nil_append (x : Except Err (List (Nat × Cell))) :
    emap (fun r => toNatUps [] ++ r) x = x := by cases x <;> simp [toNatUps]

theorem toNatUps_append (a b : List (Int × Cell)) : toNatUps (a ++ b) = toNatUps a ++ toNatUps b := by
  simp [toNatUps]

theorem stepOf_ok {κ : Type} {norm : κ → Except Err Int} {k : κ} {p : Int} (h : norm k = .ok p)
    (u : List (Int × Cell)) (c : Cell) : stepOf norm u k c = .ok (u ++ [(p, c)]) := by simp [stepOf, h]

theorem stepOf_err {κ : Type} {norm : κ → Except Err Int} {k : κ} {e : Err} (h : norm k = .error e)
    (u : List (Int × Cell)) (c : Cell) : stepOf norm u k c = .error e := by simp [stepOf, h]

theorem forZip_stepOf (norm : Int → Except Err Int) (normM : Int → Except Err Nat)
    (h : ∀ k, normM k = emap Int.toNat (norm k)) (items : List Cell) (ra : Option Nat)
    (j : Nat) (ks : List Int) (acc : List (Int × Cell)) :
    emap toNatUps (forZip (nextItem items ra) (stepOf norm) j ks acc) =
      emap (fun r => toNatUps acc ++ r) (zipLoop normM items ra j ks) := by
  induction ks generalizing j acc with
  | nil => simp [forZip, zipLoop]
  | cons k ks ih =>
    cases hn : nextItem items ra j with
    | error e => simp [forZip, zipLoop, hn]
    | ok o =>
      cases o with
      | none => simp [forZip, zipLoop, hn]
      | some c =>
        cases hk : norm k with
        | error e => simp [forZip, zipLoop, hn, h k, hk, stepOf_err hk]
        | ok p =>
          simp only [forZip, zipLoop, hn, h k, hk, stepOf_ok hk, emap_ok]
          rw [ih (j + 1) (acc ++ [(p, c)])]
          cases zipLoop normM items ra (j + 1) ks with
          | error e => rfl
          | ok rest => simp [toNatUps]

theorem forZip_inv (Q : Int → Prop) (norm : Int → Except Err Int) {it : Nat → Except Err (Option Cell)}
    {j : Nat} {ks : List Int} (acc : List (Int × Cell)) {ups : List (Int × Cell)}
    (hn : ∀ k ∈ ks, ∀ p, norm k = .ok p → Q p) (ha : ∀ u ∈ acc, Q u.1)
    (h : forZip it (stepOf norm) j ks acc = .ok ups) : ∀ u ∈ ups, Q u.1 := by
  induction ks generalizing j acc with
  | nil =>
    simp [forZip] at h
    subst h
    exact ha
  | cons k ks ih =>
    unfold forZip at h
    cases hi : it j with
    | error e => simp [hi] at h
    | ok o =>
      cases o with
      | none =>
        simp [hi] at h
        subst h
        exact ha
      | some c =>
        cases hk : norm k with
        | error e => simp [hi, stepOf_err hk] at h
        | ok p =>
          simp only [hi, stepOf_ok hk] at h
          refine ih (acc ++ [(p, c)]) (fun k' hk' => hn k' (List.mem_cons_of_mem _ hk')) ?_ h
          intro u hu
          rcases List.mem_append.1 hu with hu | hu
          · exact ha u hu
          · simp at hu
            subst hu
            exact hn k (List.mem_cons_self ..) p hk

theorem forZip_replicate (norm : Int → Except Err Int) (c : Cell) (ks : List Int) (j m : Nat)
    (acc : List (Int × Cell)) (h : j + ks.length = m) :
    forZip (iterL (List.replicate m c)) (stepOf norm) j ks acc = forEach (fun u k => stepOf norm u k c) ks acc := by
  induction ks generalizing j acc with
  | nil => rfl
  | cons k ks ih =>
    simp only [List.length_cons] at h
    have hj : j < m := by omega
    simp only [forZip, forEach, iterL, List.getElem?_replicate, hj, if_true]
    cases stepOf norm acc k c with
    | error e => rfl
    | ok acc' => exact ih (j + 1) acc' (by omega)

/-- what the mask, slice and index branches do once the keys are known (the translated side of `Assign.pairUp`) -/
def pairUpT (norm : Int → Except Err Int) (ks : List Int) (value : Value) : Except Err (List (Int × Cell)) :=
  if isSeqV value then
    match lenV value with
    | .error e => .error e
    | .ok len_value =>
      if ((ks.length : Int) != len_value) then .error Err.value
      else forZip (iterV value) (stepOf norm) 0 ks []
  else forEach (fun u k => stepOf norm u k value.asCell) ks []

theorem natCast_bne (a b : Nat) : ((a : Int) != (b : Int)) = decide (a ≠ b) := by
  by_cases h : a = b
  · simp [h]
  · have : (a : Int) ≠ b := by omega
    simp [h, this]

theorem iterL_eq (l : List Cell) : iterL l = nextItem l none := by
  funext j; simp [iterL, nextItem]

theorem iterV_seq (self : Cell) (items : List Cell) (len : LenB) (ra : Option Nat) :
    iterV (.seq self items len ra) = nextItem items ra := by
  funext j; rfl

theorem pairUpT_eq {norm : Int → Except Err Int} {normM : Int → Except Err Nat}
    (h : ∀ k, normM k = emap Int.toNat (norm k)) (ks : List Int) (value : Value) :
    emap toNatUps (pairUpT norm ks value) = pairUp normM ks value := by
  unfold pairUpT pairUp
  cases value with
  | scalar c =>
    simp only [isSeqV, Bool.false_eq_true, if_false, Value.asCell]
    rw [← forZip_replicate norm c ks 0 _ [] (Nat.zero_add _), iterL_eq, forZip_stepOf norm normM h,
      zipLoop_replicate normM c ks 0 _ (Nat.zero_add _), emap_nil_append]
  | seq self items len ra =>
    simp only [isSeqV, if_true, lenV]
    cases lenOf items len with
    | error e => rfl
    | ok m =>
      simp only [natCast_bne, iterV_seq]
      by_cases hm : ks.length = m
      · simp only [hm, ne_eq, not_true_eq_false, decide_false, Bool.false_eq_true, if_false]
        rw [forZip_stepOf norm normM h, emap_nil_append]
      · simp [hm]

theorem pairUpT_inv (Q : Int → Prop) (norm : Int → Except Err Int) (ks : List Int) (value : Value)
    (ups : List (Int × Cell)) (hn : ∀ k ∈ ks, ∀ p, norm k = .ok p → Q p)
    (h : pairUpT norm ks value = .ok ups) : ∀ u ∈ ups, Q u.1 := by
  unfold pairUpT at h
  split at h
  · split at h
    · cases h
    · split at h
      · cases h
      · exact forZip_inv Q norm [] hn (by simp) h
  · rw [← forZip_replicate norm _ ks 0 _ [] (Nat.zero_add _)] at h
    exact forZip_inv Q norm [] hn (by simp) h

/-- `[i for i, flag in enumerate(key) if flag]` -/
theorem trueIndices_from (i : Nat) (bs : List Bool) :
    (enumerateFrom (i : Int) bs).filterMap (fun (i, flag) => if flag then some i else none) =
      (trueIdxFrom i bs).map Int.ofNat := by
  induction bs generalizing i with
  | nil => rfl
  | cons b bs ih =>
    have := ih (i + 1)
    simp only [Int.natCast_add, Int.cast_ofNat_Int] at this
    cases b <;> simp [enumerateFrom, trueIdxFrom, this]

theorem maskCaseT_eq_pairUpT (O : Ops) (bs : List Bool) (value : Value) (n : Nat) :
    maskCaseT O bs value n (isSeqV value) [] =
      if bs.length ≠ n then .error Err.value else pairUpT okI ((trueIdx bs).map Int.ofNat) value := by
  have hti : (enumerate bs).filterMap (fun (i, flag) => if flag then some i else none) =
      (trueIdx bs).map Int.ofNat := trueIndices_from 0 bs
  have h1 : maskCaseLoop1T value n = stepOf okI := by funext u k c; rfl
  have h2 : maskCaseLoop2T value n = fun u k => stepOf okI u k value.asCell := by funext u k; rfl
  unfold maskCaseT pairUpT
  simp only [natCast_bne, hti, h1, h2]
  by_cases h : bs.length = n
  · simp only [h, ne_eq, not_true_eq_false, decide_false, Bool.false_eq_true, if_false]; rfl
  · simp [h]

theorem sliceLen_toNat (s e st : Int) :
    Int.toNat (max (0 : Int) (Int.fdiv ((e - s) + (st - (if decide (st > (0 : Int)) then (1 : Int) else (-1 : Int)))) st)) =
      sliceLength s e st := by
  unfold sliceLength
  simp only [decide_eq_true_eq]
  generalize Int.fdiv _ _ = q
  omega

theorem max_bne (q : Int) (m : Nat) : ((max (0 : Int) q) != (m : Int)) = decide (q.toNat ≠ m) := by
  rw [Int.max_comm, ← Int.toNat_eq_max, natCast_bne]

/-- the slice branch: `slice_length(key, n)` is the number of positions of the range, and `[value] * slice_len`
    zipped with them is the loop over the positions alone -/
theorem sliceCaseT_eq_pairUpT {O : Ops} (hi : O.slice_indices = fun s n => sliceIndices s.1 s.2.1 s.2.2 n)
    (hr : O.range = rangeList) (a b c : Option Int) (value : Value) (n : Nat) :
    sliceCaseT O (a, b, c) value n (isSeqV value) [] =
      match sliceIndices a b c n with
      | .error e => .error e
      | .ok (s, e, st) => pairUpT okI (rangeList s e st) value := by
  have h1 : sliceCaseLoop1T value n = stepOf okI := by funext u k c; rfl
  unfold sliceCaseT sliceLengthT pairUpT
  simp only [hi, hr, h1]
  cases hs : sliceIndices a b c n with
  | error e => rfl
  | ok t =>
    obtain ⟨s, e, st⟩ := t
    have hl : sliceLength s e st = (rangeList s e st).length := by
      rw [sliceLength_eq_rangeLen s e st (sliceIndices_step_ne hs), rangeList_length]
    simp only
    cases value with
    | scalar c =>
      simp only [isSeqV, Bool.false_eq_true, if_false, sliceLen_toNat, Value.asCell]
      exact forZip_replicate okI c _ 0 _ [] (by simp [hl])
    | seq self items len ra =>
      simp only [isSeqV, if_true, lenV]
      cases lenOf items len with
      | error e => rfl
      | ok m =>
        have : (Int.fdiv (e - s + (st - if st > 0 then 1 else -1)) st).toNat = (rangeList s e st).length := hl
        simp only [max_bne, natCast_bne, decide_eq_true_eq, this]

theorem idxBody_eq (n : Nat) (u : List (Int × Cell)) (idx : Int) (c : Cell) :
    (let idx := if decide (idx < (0 : Int)) then idx + (n : Int) else idx
     if !(decide ((0 : Int) ≤ idx ∧ idx < (n : Int))) then (.error Err.index : Except Err (List (Int × Cell))) else
     let updates := u ++ [(idx, c)]
     .ok updates) = stepOf (normI n) u idx c := by
  simp only [stepOf, normI, decide_eq_true_eq]
  generalize (if idx < 0 then idx + (n : Int) else idx) = j
  by_cases hc : 0 ≤ j ∧ j < (n : Int) <;> simp [hc]

theorem idxVecCaseT_eq_pairUpT (O : Ops) (is : List Int) (value : Value) (n : Nat) :
    idxVecCaseT O is value n (isSeqV value) [] = pairUpT (normI n) is value := by
  have h1 : idxVecCaseLoop1T value n = stepOf (normI n) := by funext u k c; exact idxBody_eq n u k c
  have h2 : idxVecCaseLoop2T value n = fun u k => stepOf (normI n) u k value.asCell := by
    funext u k; exact idxBody_eq n u k _
  unfold idxVecCaseT pairUpT
  rw [h1, h2]; rfl

theorem normIdx_emap (n : Nat) (k : Int) : normIdx n k = emap Int.toNat (normI n k) := by
  unfold normIdx normI
  simp only
  generalize (if k < 0 then k + (n : Int) else k) = j
  by_cases hc : 0 ≤ j ∧ j < (n : Int) <;> simp [hc]

theorem okInt_emap (k : Int) : okInt k = emap Int.toNat (okI k) := rfl

theorem pairUp_map_ofNat (ks : List Nat) (value : Value) :
    pairUp okInt (ks.map Int.ofNat) value = pairUp okNat ks value := by
  rw [pairUp_map]
  exact congrArg (pairUp · ks value) (funext fun k => by simp [okInt, okNat])

theorem collectUpdatesT_form (P : Kind → Kind → Bool) (conv : Kind → Nat → Option Nat) (shared : Bool)
    (key : Key) (value : Value) (n : Nat) :
    collectUpdatesT (modelOps P conv shared) key value n =
      match key with
      | .int i => stepOf (normI n) [] i value.asCell
      | .slice a b c =>
        (match sliceIndices a b c n with
         | .error e => .error e
         | .ok (s, e, st) => pairUpT okI (rangeList s e st) value)
      | .maskList bs => if bs.length ≠ n then .error Err.value else pairUpT okI ((trueIdx bs).map Int.ofNat) value
      | .maskVec bs => if bs.length ≠ n then .error Err.value else pairUpT okI ((trueIdx bs).map Int.ofNat) value
      | .idxVec is => pairUpT (normI n) is value
      | .idxList is => pairUpT (normI n) is value
      | .bad => .error Err.type := by
  cases key with
  | int i => exact idxBody_eq n [] i value.asCell
  | slice a b c => exact sliceCaseT_eq_pairUpT rfl rfl a b c value n
  | maskList bs => exact maskCaseT_eq_pairUpT (modelOps P conv shared) bs value n
  | maskVec bs => exact maskCaseT_eq_pairUpT (modelOps P conv shared) bs value n
  | idxVec is => exact idxVecCaseT_eq_pairUpT (modelOps P conv shared) is value n
  -- the two index branches are the same generated code
  | idxList is => exact idxVecCaseT_eq_pairUpT (modelOps P conv shared) is value n
  | bad => rfl

/-- the key dispatch and the collection of the updates, translated, is the model's `buildUpdates` (positions read as
    naturals) -/
theorem collectUpdatesT_eq (P : Kind → Kind → Bool) (conv : Kind → Nat → Option Nat) (shared : Bool)
    (key : Key) (value : Value) (n : Nat) :
    emap toNatUps (collectUpdatesT (modelOps P conv shared) key value n) = buildUpdates key value n := by
  have mask : ∀ bs, emap toNatUps (if bs.length ≠ n then .error Err.value
      else pairUpT okI ((trueIdx bs).map Int.ofNat) value) = maskUpdates bs value n := by
    intro bs
    rw [maskUpdates_eq]
    split
    · rfl
    · rw [pairUpT_eq okInt_emap, pairUp_map_ofNat]
  rw [collectUpdatesT_form]
  cases key with
  | int i =>
    simp only [buildUpdates, normIdx_emap, stepOf]
    cases normI n i <;> simp [toNatUps]
  | slice a b c =>
    simp only [buildUpdates, sliceUpdates_eq]
    cases sliceIndices a b c n with
    | error e => rfl
    | ok t => exact pairUpT_eq okInt_emap _ value
  | maskList bs => exact mask bs
  | maskVec bs => exact mask bs
  | idxVec is => simp only [buildUpdates, idxUpdates_eq]; exact pairUpT_eq (normIdx_emap n) is value
  | idxList is => simp only [buildUpdates, idxUpdates_eq]; exact pairUpT_eq (normIdx_emap n) is value
  | bad => rfl

def InB (n : Nat) (p : Int) : Prop := 0 ≤ p ∧ p < (n : Int)

theorem normI_bound {n : Nat} {k p : Int} (h : normI n k = .ok p) : InB n p := by
  unfold normI at h
  simp only at h
  generalize (if k < 0 then k + (n : Int) else k) = j at h
  by_cases hc : 0 ≤ j ∧ j < (n : Int)
  · simp [hc] at h
    subst h
    exact hc
  · simp [hc] at h

theorem okI_bound (n : Nat) (ks : List Int) (hks : ∀ k ∈ ks, InB n k) :
    ∀ k ∈ ks, ∀ p, okI k = .ok p → InB n p := by
  intro k hk p h
  injection h with h
  subst h
  exact hks k hk

theorem collectUpdatesT_bound (P : Kind → Kind → Bool) (conv : Kind → Nat → Option Nat) (shared : Bool)
    (key : Key) (value : Value) (n : Nat) (ups : List (Int × Cell))
    (h : collectUpdatesT (modelOps P conv shared) key value n = .ok ups) : ∀ u ∈ ups, InB n u.1 := by
  have hnorm : ∀ is : List Int, ∀ k ∈ is, ∀ p, normI n k = .ok p → InB n p := fun _ k _ p hp => normI_bound hp
  have mask : ∀ bs, (if bs.length ≠ n then .error Err.value
      else pairUpT okI ((trueIdx bs).map Int.ofNat) value) = .ok ups → ∀ u ∈ ups, InB n u.1 := by
    intro bs h
    split at h
    · cases h
    · refine pairUpT_inv (InB n) okI _ value ups (okI_bound n _ fun k hk => ?_) h
      obtain ⟨j, hj, rfl⟩ := List.mem_map.1 hk
      have := trueIdxFrom_bound 0 bs j hj
      simp only [InB, Int.ofNat_eq_natCast]
      omega
  rw [collectUpdatesT_form] at h
  cases key with
  | int i =>
    simp only [stepOf] at h
    split at h
    · cases h
    · rename_i hp
      cases h
      simpa using normI_bound hp
  | slice a b c =>
    simp only at h
    split at h
    · cases h
    · rename_i hsl
      exact pairUpT_inv (InB n) okI _ value ups (okI_bound n _ fun k hk => slice_positions_bound hsl hk) h
  | maskList bs => exact mask bs h
  | maskVec bs => exact mask bs h
  | idxVec is => exact pairUpT_inv (InB n) _ is value ups (hnorm is) h
  | idxList is => exact pairUpT_inv (InB n) _ is value ups (hnorm is) h
  | bad => cases h

theorem pyIndex_inb {len : Nat} {i : Int} (h : InB len i) : pyIndex len i = some i.toNat := by
  unfold InB at h
  unfold pyIndex
  have : ¬ i < 0 := by omega
  simp [this, h]

theorem mutateLoop_ok (l : List Cell) (i : Int) (c : Cell) (h : InB l.length i) :
    mutateLoopT l i c = .ok (l.set i.toNat c) := by
  have hlt : i.toNat < l.length := by unfold InB at h; omega
  unfold mutateLoopT pyGet pySet
  rw [pyIndex_inb h]
  simp [List.getElem?_eq_getElem hlt]

/-- the loop that writes the updates never raises on positions that are valid indices, and is `applyUpdates` -/
theorem mutate_eq (ups : List (Int × Cell)) (l : List Cell) (h : ∀ u ∈ ups, InB l.length u.1) :
    forEach (fun data_list ((idx, new_val) : Int × Cell) => mutateLoopT data_list idx new_val) ups l =
      .ok (applyUpdates l (toNatUps ups)) := by
  induction ups generalizing l with
  | nil => rfl
  | cons u ups ih =>
    obtain ⟨i, c⟩ := u
    have hi : InB l.length i := h (i, c) (List.mem_cons_self ..)
    simp only [forEach, mutateLoop_ok l i c hi]
    rw [ih (l.set i.toNat c) (by
      intro u hu
      rw [List.length_set]
      exact h u (List.mem_cons_of_mem _ hu))]
    simp [applyUpdates, toNatUps]

/-- the class of the object after an assignment that took the state from `s` to `s'`: a `_Date` object whose column kind went
    from date to datetime becomes a plain `Vector`; nothing else changes the class -/
def classAfter (s s' : VState) (cls : PyClass) : PyClass :=
  if s.dtype.map (·.kind) = some Kind.date ∧ s'.dtype.map (·.kind) = some Kind.datetime ∧ cls = PyClass._Date
  then PyClass.Vector else cls

theorem tupleOf_eq_convAll (conv : Kind → Nat → Option Nat) (k : Kind) (l : List Cell) :
    tupleOf (fun x => if x.tag != Tag.none then construct conv k x else some x) l = convAll conv k l := by
  induction l with
  | nil => rfl
  | cons c cs ih =>
    obtain ⟨tag, uid⟩ := c
    cases tag with
    | none => simp only [tupleOf, convAll, convCell, bne_self_eq_false, Bool.false_eq_true, if_false, ih]; rfl
    | ty k' =>
      have hne : (Tag.ty k' != Tag.none) = true := by simp
      simp only [tupleOf, convAll, convCell, hne, if_true, ih]; rfl

theorem dtypeOf_some {s : VState} {d : DType} (h : s.dtype = some d) : dtypeOf s = d := by
  simp [dtypeOf, h]

theorem classAfter_same {s s' : VState} {cls : PyClass} (h : s'.dtype.map (·.kind) = s.dtype.map (·.kind)) :
    classAfter s s' cls = cls := by
  unfold classAfter
  split
  · rename_i hh
    rw [h] at hh
    obtain ⟨a, b, _⟩ := hh
    rw [a] at b
    cases b
  · rfl

theorem classAfter_notdate {s s' : VState} {cls : PyClass} (h : s.dtype.map (·.kind) ≠ some Kind.date) :
    classAfter s s' cls = cls := by
  simp [classAfter, h]

theorem promoteT_eq (P : Kind → Kind → Bool) (conv : Kind → Nat → Option Nat) (shared : Bool)
    (k : Kind) (d : DType) (s : VState) (cls : PyClass) (hd : s.dtype = some d) :
    promoteT (modelOps P conv shared) k s cls =
      ((promoteState conv k d s).1, (promoteState conv k d s).2, classAfter s (promoteState conv k d s).2 cls) := by
  have hdo := dtypeOf_some hd
  rw [promoteState_eq]
  unfold promoteT
  simp only [hdo, modelOps, tupleOf_eq_convAll]
  by_cases hk : k = d.kind
  · simp [hk, classAfter_same]
  · have hk' : (d.kind == k) = false := by simpa using fun h => hk h.symm
    simp only [hk, hk', Bool.false_eq_true, if_false]
    by_cases hw : widens d.kind k = true
    · -- one of the four conversions: the branch of `_promote` that tests for it
      have hnd : d.kind ≠ .date → s.dtype.map (·.kind) ≠ some Kind.date := by simp [hd]
      rcases widens_iff.mp hw with ⟨h1, rfl⟩ | ⟨h1, rfl⟩ | ⟨h1, rfl⟩ | ⟨h1, rfl⟩
      · cases convAll conv .float s.data <;>
          simp [h1, widens, classAfter_notdate (hnd (by simp [h1])), dtypeOf, hd]
      · cases convAll conv .complex s.data <;>
          simp [h1, widens, classAfter_notdate (hnd (by simp [h1])), dtypeOf, hd]
      · cases convAll conv .complex s.data <;>
          simp [h1, widens, classAfter_notdate (hnd (by simp [h1])), dtypeOf, hd]
      · cases convAll conv .datetime s.data with
        | none => simp [h1, widens, classAfter_same]
        | some nt => by_cases hcl : cls = PyClass._Date <;> simp [h1, widens, classAfter, dtypeOf, hd, hcl]
    · -- no conversion: every test of `_promote` fails
      obtain ⟨h1, h2, h3⟩ := not_widens hw
      have e1 : (k == Kind.float && d.kind == Kind.int) = false := by simpa using h1
      have e2 : (k == Kind.complex && [Kind.int, Kind.float].contains d.kind) = false := by simpa using h2
      have e3 : (k == Kind.datetime && d.kind == Kind.date) = false := by simpa using h3
      simp only [hw, e1, e2, e3, Bool.false_eq_true, if_false]
      simp [classAfter_same]


theorem snd_toNatUps (ups : List (Int × Cell)) : (toNatUps ups).map (·.2) = ups.map (fun (_, v) => v) := by
  simp [toNatUps]

theorem typePhaseT_eq (P : Kind → Kind → Bool) (conv : Kind → Nat → Option Nat) (shared : Bool)
    (ups : List (Int × Cell)) (s : VState) (cls : PyClass) :
    typePhaseT (modelOps P conv shared) ups s.data s cls =
      ((typePhase P conv ((toNatUps ups).map (·.2)) s).1, (typePhase P conv ((toNatUps ups).map (·.2)) s).2,
        classAfter s (typePhase P conv ((toNatUps ups).map (·.2)) s).2 cls,
        (typePhase P conv ((toNatUps ups).map (·.2)) s).2.data) := by
  -- the model's `typePhase` follows the block statement by statement: the two sides are compared branch by
  -- branch, and only the class of the object needs an argument
  rw [snd_toNatUps]
  unfold typePhaseT typePhase
  by_cases hv : ups = []
  · subst hv; simp [classAfter_same]
  · have hne : (!ups.isEmpty) = true := by cases ups <;> simp_all
    have hve : (ups.map (fun (_, v) => v)).isEmpty = false := by cases ups <;> simp_all
    generalize ups.map (fun (_, v) => v) = vals at hve
    simp only [hne, hve, if_true, Bool.false_eq_true, if_false]
    cases hd : s.dtype with
    | none => simp [classAfter_same, hd]
    | some d =>
      have hdo := dtypeOf_some hd
      have hto : (modelOps P conv shared).target_of = foldTarget P conv := rfl
      simp only [hdo, Option.isSome_some, Bool.true_and, hto]
      by_cases ho : d.kind = .object
      · simp only [ho, bne_self_eq_false, Bool.false_eq_true, if_false, if_true]
        have hh : (vals.any fun v => v.tag == Tag.none) = hasNone vals := rfl
        by_cases hb : (!d.nullable && hasNone vals) = true <;> simp [hh, hb, classAfter_same, hd, ho]
      · have ho' : (d.kind != Kind.object) = true := by simp [ho]
        simp only [ho, ho', if_true, if_false]
        cases foldTarget P conv d vals with
        | error e => simp [classAfter_same]
        | ok target =>
          simp only
          by_cases hk : target.kind = d.kind
          · simp only [hk, bne_self_eq_false, ne_eq, not_true_eq_false, Bool.false_eq_true, if_false, hd]
            by_cases hb : (target.nullable && !d.nullable) = true <;> simp [hb, classAfter_same, hd]
          · have hk' : (target.kind != d.kind) = true := by simp [hk]
            simp only [hk', hk, ne_eq, not_false_eq_true, if_true]
            rw [promoteT_eq P conv shared target.kind d s cls hd, promoteState_eq]
            simp only [hk, if_false]
            by_cases hw : widens d.kind target.kind = true
            · simp only [hw, if_true]
              cases convAll conv target.kind s.data with
              | none => simp [classAfter_same]
              | some cvt =>
                by_cases hb : (target.nullable && !d.nullable) = true <;> simp [dtypeOf, hb, classAfter]
            · simp [hw, classAfter_same]


/-- **`Vector.__setitem__`, translated, is the model's `setitem`**; the class afterwards is `classAfter`. -/
theorem setitemT_eq (P : Kind → Kind → Bool) (conv : Kind → Nat → Option Nat) (shared : Bool)
    (key : Key) (value : Value) (s : VState) (cls : PyClass) :
    setitemT (modelOps P conv shared) key value s cls =
      ((setitem P conv shared key value s).1, (setitem P conv shared key value s).2,
        classAfter s (setitem P conv shared key value s).2 cls) := by
  -- the tracker's answer, worked out before the two definitions are unfolded
  have hw : (if (!s.data.isEmpty) = true then (modelOps P conv shared).check_writable else none) =
      if (!s.data.isEmpty && shared) = true then some Err.alias else none := by
    cases (!s.data.isEmpty) <;> cases shared
    all_goals rfl
  unfold setitemT setitem
  rw [hw]
  by_cases hsh : (!s.data.isEmpty && shared) = true
  · simp only [hsh, if_true]
    simp [classAfter_same]
  · simp only [hsh, Bool.false_eq_true, if_false]
    have hc := collectUpdatesT_eq P conv shared key value s.data.length
    cases hcu : collectUpdatesT (modelOps P conv shared) key value s.data.length with
    | error e =>
      rw [hcu] at hc
      simp only [emap_error] at hc
      rw [← hc]
      simp [classAfter_same]
    | ok ups =>
      rw [hcu] at hc
      simp only [emap_ok] at hc
      rw [← hc]
      have hb := collectUpdatesT_bound P conv shared key value _ ups hcu
      simp only
      rw [typePhaseT_eq]
      rcases typePhase_cases P conv ((toNatUps ups).map (·.2)) s with ⟨e, he⟩ | ⟨s1, he, _, hlen, _⟩
      · rw [he]
      · rw [he]
        simp only
        rw [mutate_eq ups s1.data (by rw [hlen]; exact hb)]
        simp [materialise, invalidateFpT, classAfter]


/-- no field of the object (and not its class) is assigned before the last step that can raise: when the translated method
    raises, state and class are what they were -/
theorem setitemT_atomic (P : Kind → Kind → Bool) (conv : Kind → Nat → Option Nat) (shared : Bool)
    (key : Key) (value : Value) (s : VState) (cls : PyClass) (e : Err)
    (h : (setitemT (modelOps P conv shared) key value s cls).1 = some e) :
    (setitemT (modelOps P conv shared) key value s cls).2 = (s, cls) := by
  rw [setitemT_eq] at h ⊢
  have := (setitem_frame P conv shared key value s).2.2 e h
  simp only [this]
  rw [classAfter_same rfl]

/-- `_promote` alone: refusing or failing while converting stores nothing -/
theorem promoteT_atomic (P : Kind → Kind → Bool) (conv : Kind → Nat → Option Nat) (shared : Bool)
    (k : Kind) (d : DType) (s : VState) (cls : PyClass) (hd : s.dtype = some d) (e : Err)
    (h : (promoteT (modelOps P conv shared) k s cls).1 = some e) :
    (promoteT (modelOps P conv shared) k s cls).2 = (s, cls) := by
  rw [promoteT_eq P conv shared k d s cls hd] at h ⊢
  rw [promoteState_eq] at h ⊢
  split at h
  · cases h
  · split at h
    · split at h
      · simp [*, classAfter_same]
      · cases h
    · simp [*, classAfter_same]

/-- the order of the effectful steps, as read off the source: in `__setitem__` nothing is stored before `_promote` has returned,
    the tracker is told to forget the old storage before the new one is stored and told about the new one after the memo is
    dropped; in each branch of `_promote` the conversion of all elements precedes the first store, the dtype is set last
    (and the class, in the date branch, after it) -/
example : setitemSequenceT =
    ["alias.check_writable", "raise", "call _promote", "store _dtype", "store _dtype", "alias.unregister",
     "store _underlying", "call _invalidate_fp", "alias.register"] := rfl
example : promoteSequenceT =
    ["raise",
     "convert", "alias.unregister", "store _underlying", "alias.register", "store _dtype",
     "convert", "alias.unregister", "store _underlying", "alias.register", "store _dtype",
     "convert", "alias.unregister", "store _underlying", "alias.register", "store _dtype", "store __class__",
     "raise"] := rfl

private def cI (u : Nat) : Cell := ⟨.ty .int, u⟩
private def cF (u : Nat) : Cell := ⟨.ty .float, u⟩
private def cD (u : Nat) : Cell := ⟨.ty .date, u⟩
private def cN : Cell := ⟨.none, 0⟩
private def conv1 : Kind → Nat → Option Nat := fun _ u => if u = 13 then none else some (u + 100)
private def sInt : VState := ⟨[cI 1, cI 2, cI 3, cI 4], some ⟨.int, false⟩, none, some [cI 1, cI 2, cI 3, cI 4]⟩
private def sDate : VState := ⟨[cD 1, cN], some ⟨.date, true⟩, none, none⟩
private def O1 : Ops := modelOps genP conv1 false

-- v[-1] = 9 : the last cell, memo dropped
example : setitemT O1 (.int (-1)) (.scalar (cI 9)) sInt .Vector =
    (none, ⟨[cI 1, cI 2, cI 3, cI 9], some ⟨.int, false⟩, none, none⟩, .Vector) := by decide +kernel
-- v[4] = 9 : SerifIndexError, nothing changed
example : setitemT O1 (.int 4) (.scalar (cI 9)) sInt .Vector = (some .index, sInt, .Vector) := by decide +kernel
-- v[::-2] = [7, 2.5] : positions 3 and 1, the column is promoted to float (every element converted), dtype set
example : setitemT O1 (.slice none none (some (-2))) (.seq (cI 0) [cI 7, cF 8] .ok none) sInt .Vector =
    (none, ⟨[cF 101, cF 8, cF 103, cI 7], some ⟨.float, false⟩, none, none⟩, .Vector) := by decide +kernel
-- v[1:3] = [7] : SerifValueError (slice_length 2, one value)
example : setitemT O1 (.slice (some 1) (some 3) none) (.seq (cI 0) [cI 7] .ok none) sInt .Vector =
    (some .value, sInt, .Vector) := by decide +kernel
-- v[[True, False, True, False]] = None : two cells, nullable flag set
example : setitemT O1 (.maskList [true, false, true, false]) (.scalar cN) sInt .Vector =
    (none, ⟨[cN, cI 2, cN, cI 4], some ⟨.int, true⟩, none, none⟩, .Vector) := by decide +kernel
-- v[[0, -1]] = <iterator that raises at its second item> : the exception, nothing changed
example : setitemT O1 (.idxList [0, -1]) (.seq (cI 0) [cI 7, cI 8] .ok (some 1)) sInt .Vector =
    (some .other, sInt, .Vector) := by decide +kernel
-- a float whose conversion of an existing element raises (uid 13): nothing changed
example : setitemT O1 (.int 0) (.scalar (cF 8)) ⟨[cI 13, cI 2], some ⟨.int, false⟩, none, none⟩ .Vector =
    (some .other, ⟨[cI 13, cI 2], some ⟨.int, false⟩, none, none⟩, .Vector) := by decide +kernel
-- a shared storage tuple: refused by the tracker before anything else
example : setitemT (modelOps genP conv1 true) (.int 0) (.scalar (cI 9)) sInt .Vector = (some .alias, sInt, .Vector) := by
  decide +kernel
-- a `_Date` object receiving a datetime: elements converted, None kept, dtype datetime, class switched to Vector
example : setitemT O1 (.int 0) (.scalar ⟨.ty .datetime, 5⟩) sDate ._Date =
    (none, ⟨[⟨.ty .datetime, 5⟩, cN], some ⟨.datetime, true⟩, none, none⟩, .Vector) := by decide +kernel
example : promoteT O1 .datetime sDate ._Date =
    (none, ⟨[⟨.ty .datetime, 101⟩, cN], some ⟨.datetime, true⟩, none, none⟩, .Vector) := by decide +kernel
example : promoteT O1 .str sInt .Vector = (some .type, sInt, .Vector) := by decide +kernel
example : sliceLengthT O1 (some 1, none, some (-1)) 4 = .ok 2 := by decide +kernel
-- Python's list indexing: `l[-1] = x` wraps, `l[4] = x` on four elements raises
example : pySet [cI 1, cI 2] (-1) (cI 9) = .ok [cI 1, cI 9] := by decide +kernel
example : pySet [cI 1, cI 2] 2 (cI 9) = .error .other := by decide +kernel

end Serif.Tie

-- the audit a reader runs: the build log shows that these rest on the three standard axioms at most
#print axioms Serif.Tie.setitemT_eq
#print axioms Serif.Tie.setitemT_atomic
#print axioms Serif.Tie.collectUpdatesT_eq
#print axioms Serif.Tie.collectUpdatesT_bound
#print axioms Serif.Tie.promoteT_eq
#print axioms Serif.Tie.typePhaseT_eq
#print axioms Serif.Tie.mutate_eq
