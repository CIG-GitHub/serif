/-
  Translation tie for `Table._build_column_map`: the loop body translated statement by statement from the source
  (Gen.T.buildColumnMapStepT: the `is None` tests, the `in seen` test, the two f-strings, the `sep` conditional, the update
  of `seen`) is the model's `stepAcc` — with the model's `sanitizeCore` as
  `_sanitize_user_name` (hand-modelled: regular expressions; tied by the correspondence check of C17) and `showNat` as `str(idx)`;
  and the whole function (the loop over `enumerate`, the dict assignments) is the model's `buildColumnMap`.
  Supplementary (see Serif/Tie/Typing.lean).
-/
import Serif.Gen.Translated
import Serif.Model.Names

namespace Serif.Tie
open Serif Serif.Names Serif.Gen.T

theorem buildColumnMapStep_eq (seen : List Str) (idx : Nat) (nm : Option Str) :
    buildColumnMapStepT sanitizeCore showNat seen idx nm = stepAcc seen idx nm := by
  unfold buildColumnMapStepT stepAcc baseOf
  cases nm with
  | none => simp [colN]
  | some n =>
    simp only
    cases sanitizeCore n with
    | none => simp [colN]
    | some base =>
      simp only
      split
      · simp [indexed, endsWithU]
      · rfl

theorem buildColumnMapLoop_eq (names : List (Option Str)) (idx : Nat) (seen : List Str) (map : Dict Str Nat) :
    ((names.zipIdx idx).foldl (fun (st : Dict Str Nat × List Str) p =>
      let r := buildColumnMapStepT sanitizeCore showNat st.2 p.2 p.1
      (Dict.upsert st.1 r.1 (fun _ => p.2), r.2)) (map, seen)).1 = buildFrom idx seen map names := by
  induction names generalizing idx seen map with
  | nil => rfl
  | cons nm rest ih =>
    simp only [List.zipIdx_cons, List.foldl_cons, buildFrom]
    rw [buildColumnMapStep_eq]
    exact ih (idx + 1) _ _

/-- the whole of `Table._build_column_map`, translated, is the model's `buildColumnMap` -/
theorem buildColumnMap_eq (names : List (Option Str)) :
    buildColumnMapT sanitizeCore showNat names = buildColumnMap names :=
  buildColumnMapLoop_eq names 0 [] []

end Serif.Tie
