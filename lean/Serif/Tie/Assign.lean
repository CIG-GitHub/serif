/-
  Translation tie for the type phase of `Vector.__setitem__` (C08; the "promotion on assignment" clause of C03): the loop
  `target = self._dtype; for val in new_values: …`, translated statement by statement (`Gen.T.setitemTargetStepT`,
  `setitemTargetT`), is the model's `Assign.foldTarget`, provided the element conversions `validate_scalar` performs on the
  way succeed (one that raises — `float(10**400)` — is modelled by `conv` and tied by the correspondence leg).
  Supplementary (see Serif/Tie/Typing.lean).
-/
import Serif.Gen.Translated
import Serif.Model.Assign
import Serif.Proofs.DType
import Serif.Tie.Typing

namespace Serif.Tie
open Serif Serif.Assign Serif.Gen.T

/-- one iteration of the loop -/
theorem setitemTargetStep_eq (P : Kind → Kind → Bool) (conv : Kind → Nat → Option Nat)
    (hconv : ∀ k u, (conv k u).isSome = true) (t : DType) (c : Cell) (cs : List Cell) :
    foldTarget P conv t (c :: cs) =
      (match setitemTargetStepT P t c.tag with
       | .error e => .error e
       | .ok t' => foldTarget P conv t' cs) := by
  obtain ⟨tag, uid⟩ := c
  cases tag with
  | none => simp [foldTarget, setitemTargetStepT]
  | ty k =>
    simp only [foldTarget, setitemTargetStepT, validates_eq, inferDtype_eq, infer_singleton, requiredKind, inferKind,
      Option.getD_some]
    have hc : (conv t.kind uid).isNone = false := by
      have := hconv t.kind uid
      cases h : conv t.kind uid <;> simp_all
    by_cases hv : validates t (Tag.ty k) = true
    · simp [hv, hc]
    · have hv' : validates t (Tag.ty k) = false := by simpa using hv
      by_cases hp : P t.kind k = true
      · simp [hv', hp]
      · have hp' : P t.kind k = false := by simpa using hp
        simp [hv', hp']

/-- the whole loop: the translated fold over the new values' exact types is the model's `foldTarget` -/
theorem setitemTarget_eq (P : Kind → Kind → Bool) (conv : Kind → Nat → Option Nat)
    (hconv : ∀ k u, (conv k u).isSome = true) (d : DType) (cells : List Cell) :
    setitemTargetT P d (cells.map (·.tag)) = foldTarget P conv d cells := by
  unfold setitemTargetT
  induction cells generalizing d with
  | nil => simp [foldTarget, pure, Except.pure]
  | cons c cs ih =>
    rw [setitemTargetStep_eq P conv hconv]
    simp only [List.map_cons, List.foldlM_cons, bind, Except.bind]
    cases h : setitemTargetStepT P d c.tag with
    | error e => rfl
    | ok t' => simpa using ih t'

/-- the tests after the loop are the model's conditions for promoting the storage and for setting the nullable flag -/
theorem setitemAfterLoop_eq (target d : DType) :
    setitemNeedsPromoteT target d = decide (target.kind ≠ d.kind) ∧
    setitemNeedsNullableT target d = (target.nullable && !d.nullable) := by
  constructor
  · simp only [setitemNeedsPromoteT, bne, decide_not]
    by_cases h : target.kind = d.kind <;> simp [h]
  · rfl

/-- non-vacuity: an int column, new values 2.5 then None — the target is nullable float; a str is refused -/
example : setitemTargetT Assign.genP ⟨.int, false⟩ [Tag.ty .float, Tag.none] = .ok ⟨.float, true⟩ := by decide +kernel
example : setitemTargetT Assign.genP ⟨.int, false⟩ [Tag.ty .float, Tag.ty .str] = .error Err.type := by decide +kernel

end Serif.Tie
