/-
  Translation tie for `sort_by` (C14): the first component of the sort key — the flag that places None — translated from the
  source text of `key_fn` inside `Table.sort_by` and of the two lambdas of `Vector.sort_by` (`Serif/Gen/TranslatedSort.lean`) is,
  for all eight inputs, the truth table the extractor obtains by *executing* those functions (`Gen.sortFlagTable`,
  `Gen.sortFlagVector`), and it satisfies the model's requirement on a key function (`Sort.flagOK`: None gets the larger flag exactly
  when `na_last != reverse`).  The translator also checks literally that `Table.sort_by` applies its keys from last to first with
  `indices.sort(key=key_fn, reverse=rev)` and `Vector.sort_by` calls `sorted(..., key=key_fn, reverse=reverse)`; the stability of
  CPython's sort is an assumption of the model (`isort`).  Supplementary (see Serif/Tie/Typing.lean).
-/
import Serif.Gen.TranslatedSort
import Serif.Model.Sort

namespace Serif.Tie
open Serif Serif.Sort Serif.Gen.TS

theorem tableSortFlag_eq (isNone rev naLast : Bool) : tableSortFlagT isNone rev naLast = Gen.sortFlagTable isNone rev naLast := by
  revert isNone rev naLast; decide +kernel

theorem vectorSortFlag_eq (isNone rev naLast : Bool) : vectorSortFlagT isNone rev naLast = Gen.sortFlagVector isNone rev naLast := by
  revert isNone rev naLast; decide +kernel

theorem translated_flags_ok : flagOK tableSortFlagT = true ∧ flagOK vectorSortFlagT = true := by decide +kernel

end Serif.Tie
