/-
  Translation tie for the footers, the column selection and the header rows of repr (C20).

  `harness/tr/reprfooter.py` translates, statement by statement, from the current source (`Serif/Gen/TranslatedReprFooter.lean`,
  regenerated on every run): `display._footer`, `_compute_headers`, `_is_structural_change`, `_header_rows`, three slices of
  `_repr_table` (`truncated, col_indices`; `header_rows, show_types_in_header`; the footer line appended last), `_repr_vector`,
  `_printr`, and `DataType.__repr__` (typing.py), `Vector.shape` (vector.py).  This file proves them equal to the model of
  `Serif/Model/Repr.lean`.

  Parameters / oracles (not translated): `kind.__name__` (instantiated with the model's `kindName`), `str.replace` (any function
  meeting `ReplaceSpec`; `pyStrReplace_spec` shows one), `str.lower`, `repr`, `_needs_quote`, `str.ljust/rjust`, `_sanitize_user_name`
  and `_format_column` (the model's oracle texts `Col.san`, `Col.shownName`, `Col.lower`; `Oracles` states what they stand for).
  The model has no separate definition for the `_header_rows` part of `tableHeader` and for the `<…>` text `_footer` builds from its
  own arguments; the first is `headerRows` of Serif/Proofs/Repr.lean (`tableHeader_eq`), `footerTableTypes` is defined here.
  Supplementary (see Serif/Tie/Typing.lean).
-/
import Serif.Gen.TranslatedReprFooter
import Serif.Proofs.Repr

namespace Serif.Tie
open Serif Serif.Repr Serif.Gen.TF

private theorem pyJoin_comma (l : List String) : pyJoin ", " l = joinComma l := by
  induction l with
  | nil => simp [pyJoin, joinComma]
  | cons a r ih =>
    cases r with
    | nil => simp [pyJoin, joinComma]
    | cons b r' =>
      simp only [pyJoin] at ih ⊢
      rw [String.intercalate_cons_cons, ih]
      simp [joinComma]

private theorem pyLastN_eq {α : Type} (n : Nat) (l : List α) : pyLastN n l = lastN n l := by
  unfold pyLastN lastN
  by_cases h : n = 0 <;> simp [h]

theorem rf_pyInsert_eq {α : Type} (i : Nat) (x : α) (l : List α) : pyInsert i x l = insertAt i x l := rfl

/-- `len(set(l)) > 1` is the model's `heterogeneous l` -/
theorem lenSet_gt_one (l : List String) : decide (l.eraseDups.length > 1) = heterogeneous l := by
  cases l with
  | nil => rfl
  | cons a r =>
    -- the set keeps `a`; a second element survives iff some entry differs from `a`
    rw [List.eraseDups_cons, Bool.eq_iff_iff]
    simp [heterogeneous, List.length_pos_iff_exists_mem, List.mem_eraseDups]

/-- `len(set(l)) == 1` for a non-empty list is the negation of `heterogeneous l` -/
theorem lenSet_eq_one (l : List String) (h : l ≠ []) : (l.eraseDups.length == 1) = !heterogeneous l := by
  rw [← lenSet_gt_one]
  obtain ⟨a, r, rfl⟩ := List.exists_cons_of_ne_nil h
  rw [List.eraseDups_cons, Bool.eq_iff_iff]
  simp

/-- the footer of a vector (shape `()` for an empty one, else `(n,)`) -/
theorem footerT_vector (otherName : Nat → String) (shape : List Nat) (hs : shape.length ≤ 1) (n : Nat) (dt : Option DType)
    (dl : Option (List String)) (tr : Bool) (s : Nat) :
    footerT (kindName otherName) shape n dt dl tr s = (Footer.vector n (dtypeText otherName dt)).render := by
  rw [Footer.render, dtypeText_eq_match]
  rcases shape with _ | ⟨a, _ | ⟨b, r⟩⟩
  · cases dt <;> rfl
  · cases dt <;> rfl
  · simp at hs

/-- the `<…>` part `_footer` prints for a two-dimensional shape -/
def footerTableTypes (otherName : Nat → String) (dt : Option DType) (dl : Option (List String)) (tr : Bool) (s : Nat) : String :=
  match pyNonEmpty? dl with
  | some l => if tr then joinComma (l.take s) ++ ", ..., " ++ joinComma (lastN s l) else joinComma l
  | none => match dt with | some d => kindName otherName d.kind | none => "object"

/-- the footer of a table of shape `(r, c)` -/
theorem footerT_table (otherName : Nat → String) (r c n : Nat) (dt : Option DType) (dl : Option (List String)) (tr : Bool) (s : Nat) :
    footerT (kindName otherName) [r, c] n dt dl tr s = (Footer.table r c (footerTableTypes otherName dt dl tr s)).render := by
  unfold footerT footerTableTypes
  simp only [Footer.render]
  cases hdl : pyNonEmpty? dl with
  | none => cases dt <;> simp
  | some l => cases tr <;> simp [pyJoin_comma, pyLastN_eq]

/-- `truncated` and `col_indices` of `_repr_table` are the model's test and `shownIdx` -/
theorem colIndicesT_eq {γ ν : Type} (kn : Kind → String) (m : Nat) (cd : γ → Option DType) (cn : γ → ν) (nt : ν → Bool) (ne : ν → String)
    (sn : ν → Option String) (lw : String → String) (nq : String → Bool) (rp : String → String)
    (rep : String → String → String → String) (sh : List Nat) (ln : Nat) (dt : Option DType) (cols : List γ) :
    colIndicesT kn m cd cn nt ne sn lw nq rp rep sh ln dt cols = (decide (cols.length > m * 2), shownIdx m cols.length) := by
  rw [colIndicesT, colIndices_eq pyRange (fun _ _ => rfl)]

/-- what `_compute_headers` carries from column to column, read off the model's loop state -/
def hdrView (st : HdrSt) : List String × List String × List String × List String := (st.seen, st.disp, st.san, st.dts)

/-- `_compute_headers`, translated, is the model's `computeHeaders`: the stored
    names, the accessor names of the dot row (with the `colN_` / `_N` fallbacks and the names claimed by hidden columns) and the
    dtype tokens.  The column's oracle texts are read from the model's `Col`. -/
theorem computeHeadersT_eq (otherName : Nat → String) (cols : List Col) (idxs : List Nat) :
    computeHeadersT (kindName otherName) (fun c : Col => c.dtype) (fun c : Col => c) (fun c => nameTruthy c.name)
        (fun c => c.name.getD "") (fun c => c.san) cols idxs =
      ((computeHeaders otherName cols idxs).disp, (computeHeaders otherName cols idxs).san, (computeHeaders otherName cols idxs).dts) := by
  unfold computeHeadersT computeHeaders
  simp only []
  rw [hdrLoop_eq_foldl, show (([], [], [], []) : List String × List String × List String × List String) =
      hdrView { seen := [], disp := [], san := [], shown := [], lowers := [], dts := [] } from rfl,
    List.foldl_hom hdrView (g₁ := fun st p => hdrStep otherName idxs st p.2 p.1)]
  · rfl
  · -- one iteration, in the order of the source's tests: hidden column or displayed one, then the dtype token
    intro st (c, i)
    simp only [hdrView, hdrStep, dtypeText_eq_match]
    cases idxs.contains i
    · cases nameTruthy c.name
      · rfl
      · cases c.san <;> rfl
    · cases c.dtype <;> rfl

section
variable (lw : String → String) (nq : String → Bool) (rp : String → String)

/-- what the model's oracle texts stand for: next to every displayed name `d` other than the `...` placeholder stand
    `repr(d) if _needs_quote(d) else d` and `d.lower()` -/
inductive Oracles :
    List String → List String → List String → Prop
  | nil : Oracles [] [] []
  | cons {d s l : String} {ds ss ls : List String} :
      (d ≠ "..." → s = (if nq d then rp d else d) ∧ l = lw d) → Oracles ds ss ls →
      Oracles (d :: ds) (s :: ss) (l :: ls)

theorem isStructuralChangeT_eq (d s : String) :
    isStructuralChangeT lw d s = isStructural d (lw d) s := by
  unfold isStructuralChangeT isStructural
  by_cases h1 : d = "" <;> by_cases h2 : s = "" <;> simp [h1, h2]
  by_cases h3 : lw d = s <;> simp [h3]

private theorem anyStructural_eq
    (disp shownNames lowers : List String) (ho : Oracles lw nq rp disp shownNames lowers) (san : List String) :
    (disp.zip san).any (fun (x : String × String) => x.1 != "..." && x.2 != "..." && isStructuralChangeT lw x.1 x.2) =
      (zip3 disp lowers san).any (fun (x : String × String × String) => x.1 != "..." && x.2.2 != "..." && isStructural x.1 x.2.1 x.2.2) := by
  induction ho generalizing san with
  | nil => cases san <;> simp [zip3]
  | @cons d sh l ds shs ls hd _ ih =>
    cases san with
    | nil => simp [zip3]
    | cons s ss =>
      simp only [List.zip_cons_cons, zip3, List.any_cons, ih]
      congr 1
      by_cases h1 : d = "..."
      · simp [h1]
      · obtain ⟨_, hl⟩ := hd h1
        simp [isStructuralChangeT_eq, hl]

private theorem row1_eq
    (disp shownNames lowers : List String) (ho : Oracles lw nq rp disp shownNames lowers) :
    disp.map (fun d => if d == "..." then "..." else if nq d then rp d else d) =
      (disp.zip shownNames).map (fun (x : String × String) => if x.1 == "..." then "..." else x.2) := by
  induction ho with
  | nil => rfl
  | @cons d sh l ds shs ls hd _ ih =>
    simp only [List.map_cons, List.zip_cons_cons, ih, List.cons.injEq, and_true]
    by_cases h1 : d = "..."
    · simp [h1]
    · simp [h1, (hd h1).1]

/-- `_header_rows`, translated, gives the cells of the model's header rows and the model's `show_types_in_header`, for all five
    lists related by `Oracles` -/
theorem headerRowsT_eq
    (disp shownNames lowers san dts : List String) (ho : Oracles lw nq rp disp shownNames lowers) :
    headerRowsT lw nq rp disp san dts =
      ((headerRows disp shownNames lowers san dts).1.map (·.cells), (headerRows disp shownNames lowers san dts).2) := by
  unfold headerRowsT headerRows
  simp only [lenSet_gt_one, List.any_filter]
  rw [List.foldl_eq_append_map (g := fun d => if d == "..." then "..." else if nq d then rp d else d) ?_ disp,
    List.nil_append]
  · rw [anyStructural_eq lw nq rp disp shownNames lowers ho san, row1_eq lw nq rp disp shownNames lowers ho]
    generalize heterogeneous (List.filter (fun dt => dt != "...") dts) = b3
    generalize ((zip3 disp lowers san).any fun x => x.fst != "..." && x.2.snd != "..." && isStructural x.fst x.2.fst x.2.snd) = b2
    generalize (disp.any fun a => a != "..." && a != "") = b1
    cases b1 <;> cases b2 <;> cases b3 <;> rfl
  · intro acc x
    -- `name if name else ''`
    have hx : (if (x != "") = true then x else "") = x := by split <;> simp_all
    rw [hx]
    split
    · rfl
    · split <;> rfl

/-- `show_types_in_header` is the model's test: two displayed dtype tokens differ -/
theorem headerRowsT_showTypes (disp san dts : List String) :
    (headerRowsT lw nq rp disp san dts).2 = heterogeneous (dts.filter (· != "...")) := by
  unfold headerRowsT
  simp only [lenSet_gt_one]

private theorem oracles_map (l : List Col)
    (h : ∀ c ∈ l, c.shownName = (if nq (c.name.getD "") then rp (c.name.getD "") else c.name.getD "") ∧
      c.lower = lw (c.name.getD "")) :
    Oracles lw nq rp (l.map (fun c => c.name.getD "")) (l.map (·.shownName)) (l.map (·.lower)) := by
  induction l with
  | nil => exact .nil
  | cons c r ih =>
    exact .cons (fun _ => h c List.mem_cons_self) (ih (fun c' hc' => h c' (List.mem_cons_of_mem _ hc')))

private theorem oracles_insert (a b c : List String)
    (ho : Oracles lw nq rp a b c) (m : Nat) :
    Oracles lw nq rp (insertAt m "..." a) (insertAt m "..." b) (insertAt m "..." c) := by
  induction ho generalizing m with
  | nil => cases m <;> exact .cons (fun h => absurd rfl h) .nil
  | @cons d s l ds ss ls hd ht ih =>
    cases m with
    | zero => exact .cons (fun h => absurd rfl h) (.cons hd ht)
    | succ k => exact .cons hd (ih k)

end

/-- `header_rows, show_types_in_header` of `_repr_table`, translated, are the cells of the model's header rows (stored names, the dot
    row of accessors, the `[dtype]` row) and the model's flag.  The hypothesis says
    what the oracle texts of a column stand for: `shownName` = `repr(n) if _needs_quote(n) else n`, `lower` = `n.lower()` with
    `n = _name or ""`. -/
theorem tableShowTypesT_eq (otherName : Nat → String) (m : Nat) (lw : String → String) (nq : String → Bool) (rp : String → String)
    (rep : String → String → String → String) (sh : List Nat) (ln : Nat) (dt : Option DType) (cols : List Col)
    (h : ∀ c ∈ cols, c.shownName = (if nq (c.name.getD "") then rp (c.name.getD "") else c.name.getD "") ∧
      c.lower = lw (c.name.getD "")) :
    tableShowTypesT (kindName otherName) m (fun c : Col => c.dtype) (fun c : Col => c) (fun c => nameTruthy c.name)
        (fun c => c.name.getD "") (fun c => c.san) lw nq rp rep sh ln dt cols =
      ((tableHeader otherName m cols).1.map (·.cells), (tableHeader otherName m cols).2) := by
  have ho := oracles_map lw nq rp (shownCols m cols) fun c hc => h c (mem_of_mem_shownCols hc)
  rw [tableHeader_eq]
  unfold tableShowTypesT
  -- `Prod.eta`: the source's `a, b = f(…)` leaves `((f …).1, (f …).2)`, which the unifier would match against `f …` by unfolding `f`
  simp only [colIndices_eq pyRange (fun _ _ => rfl), computeHeadersT_eq, computeHeaders_fields, rf_pyInsert_eq, ite_prod,
    Prod.eta]
  refine headerRowsT_eq lw nq rp _ _ _ _ _ ?_
  split
  · exact oracles_insert lw nq rp _ _ _ ho m
  · exact ho

/-- what the tie needs of Python's `str.replace`: a pattern `<d>` that ends the string and starts at its only `<` is replaced once -/
def ReplaceSpec (rep : String → String → String → String) : Prop :=
  ∀ pre d new : String, '<' ∉ pre.toList → rep (pre ++ ("<" ++ d ++ ">")) ("<" ++ d ++ ">") new = pre ++ new

private theorem lt_not_in_nat (n : Nat) : '<' ∉ (toString n).toList := by
  intro h
  have e : (toString n).toList = Nat.toDigits 10 n := Nat.toList_repr
  rw [e] at h
  have := Nat.isDigit_of_mem_toDigits (by decide) (by decide) h
  revert this
  decide

/-- `.replace("<d>", "<new>")` on the footer `_footer` printed with `<d>` prints the footer with `<new>` -/
theorem replace_footer (rep : String → String → String → String) (hrep : ReplaceSpec rep) (r c : Nat) (d new : String) :
    rep (Footer.table r c d).render ("<" ++ d ++ ">") ("<" ++ new ++ ">") = (Footer.table r c new).render := by
  have hpre : '<' ∉ ("# " ++ toString r ++ "×" ++ toString c ++ " table ").toList := by
    simp only [String.toList_append, List.mem_append, not_or]
    refine ⟨⟨⟨⟨by decide, lt_not_in_nat r⟩, by decide⟩, lt_not_in_nat c⟩, by decide⟩
  have e : ∀ x : String, (Footer.table r c x).render =
      ("# " ++ toString r ++ "×" ++ toString c ++ " table ") ++ ("<" ++ x ++ ">") := by
    intro x
    have : (" table <" : String) = " table " ++ "<" := by decide +kernel
    simp only [Footer.render, this, String.append_assoc]
  rw [e d, hrep _ _ _ hpre, e new]

/-- `_footer(tbl)` called without a dtype list prints the kind name of `tbl._dtype` (or `object`) between the angle brackets, and
    `_repr_table` replaces exactly that part -/
theorem footerT_replaced (otherName : Nat → String) (rep : String → String → String → String) (hrep : ReplaceSpec rep)
    (r c n m : Nat) (dt : Option DType) (new : String) :
    rep (footerT (kindName otherName) [r, c] n dt none false m) ("<" ++ footerTableTypes otherName dt none false m ++ ">")
      ("<" ++ new ++ ">") = (Footer.table r c new).render := by
  rw [footerT_table, replace_footer rep hrep]

/-- the footer line of `_repr_table` for a table with at least one column and shape `(r, c)`: `# r×c table <…>` with the model's
    `footerTypes` — `mixed` when the displayed dtypes differ, the one token of a homogeneous table, else all tokens (first and
    last `m` around `...` when truncated) -/
theorem tableFooterT_eq (otherName : Nat → String) (m : Nat) (lw : String → String) (nq : String → Bool) (rp : String → String)
    (rep : String → String → String → String) (hrep : ReplaceSpec rep) (r c n : Nat) (dt : Option DType) (cols : List Col)
    (hne : cols ≠ []) :
    tableFooterT (kindName otherName) m (fun c : Col => c.dtype) (fun c : Col => c) (fun c => nameTruthy c.name)
        (fun c => c.name.getD "") (fun c => c.san) lw nq rp rep [r, c] n dt cols =
      (Footer.table r c (footerTypes m (tableHeader otherName m cols).2 (decide (cols.length > m * 2))
        (cols.map (fun c => dtypeText otherName c.dtype)))).render := by
  have hlen : (cols.length == 0) = false := by simpa using hne
  have hall : cols.map (fun c => dtypeText otherName c.dtype) ≠ [] := by simpa using hne
  -- `show_types_in_header` of the model, in the form the translated statements reach
  have hflag := congrArg Prod.snd (tableHeader_eq otherName m cols)
  simp only [headerRows] at hflag
  unfold tableFooterT
  simp only []
  rw [List.foldl_eq_append_map (g := fun c : Col => dtypeText otherName c.dtype) ?tok cols]
  case tok =>
    intro acc c
    rw [dtypeText_eq_match]
    cases c.dtype <;> rfl
  simp only [hlen, Bool.false_eq_true, if_false, colIndices_eq pyRange (fun _ _ => rfl), computeHeadersT_eq, rf_pyInsert_eq,
    ite_prod, headerRowsT_showTypes, ← hflag, lenSet_eq_one _ hall, List.nil_append]
  obtain ⟨a, rest, hcols⟩ := List.exists_cons_of_ne_nil hall
  rw [hcols]
  cases (tableHeader otherName m cols).2
  · cases hh : heterogeneous (a :: rest)
    · simp only [Bool.false_eq_true, if_false, Bool.not_false, if_true, footerTypes, hh]
      exact footerT_replaced otherName rep hrep r c n m dt a
    · simp only [Bool.false_eq_true, if_false, Bool.not_true, footerTypes, hh, footerT_table, footerTableTypes, pyNonEmpty?]
  · have hmixed : ("<mixed>" : String) = "<" ++ "mixed" ++ ">" := by decide +kernel
    simp only [if_true, footerTypes, hmixed]
    exact footerT_replaced otherName rep hrep r c n m dt "mixed"

/-- a table without columns prints `# 0×0 table` and nothing else -/
theorem tableFooterT_empty {γ ν : Type} (kn : Kind → String) (m : Nat) (cd : γ → Option DType) (cn : γ → ν) (nt : ν → Bool) (ne : ν → String)
    (sn : ν → Option String) (lw : String → String) (nq : String → Bool) (rp : String → String)
    (rep : String → String → String → String) (sh : List Nat) (ln : Nat) (dt : Option DType) :
    tableFooterT kn m cd cn nt ne sn lw nq rp rep sh ln dt [] = Footer.emptyTable.render := rfl

/-- the footer line of `_repr_table`, translated, is the rendering of the model's footer: whenever the model's `reprTable`
    returns.  `[t.nrows, t.cols.length]` is `tbl.shape`; `len(tbl)` and `tbl._dtype` do not matter. -/
theorem reprTable_footer (otherName : Nat → String) (rows m : Nat) (lw : String → String) (nq : String → Bool) (rp : String → String)
    (rep : String → String → String → String) (hrep : ReplaceSpec rep) (n : Nat) (dt : Option DType) (t : Tab) (out : Out)
    (h : reprTable otherName rows m t = .ok out) :
    tableFooterT (kindName otherName) m (fun c : Col => c.dtype) (fun c : Col => c) (fun c => nameTruthy c.name)
        (fun c => c.name.getD "") (fun c => c.san) lw nq rp rep [t.nrows, t.cols.length] n dt t.cols = out.footer.render := by
  by_cases he : t.cols = []
  · rw [reprTable_nil he] at h
    cases h
    rw [he]
    rfl
  · obtain ⟨_, _, rfl⟩ := (reprTable_eq_ok he).mp h
    exact tableFooterT_eq otherName m lw nq rp rep hrep _ _ n dt t.cols he

private def rfDropPrefix : List Char → List Char → Option (List Char)
  | s, [] => some s
  | [], _ :: _ => none
  | a :: s, b :: p => if a = b then rfDropPrefix s p else none

/-- left-to-right, non-overlapping replacement of a non-empty pattern (`fuel` ≥ length + 1) -/
private def rfReplaceAux (pat new : List Char) : Nat → List Char → List Char
  | 0, s => s
  | fuel + 1, s =>
    match rfDropPrefix s pat with
    | some rest => new ++ rfReplaceAux pat new fuel rest
    | none =>
      match s with
      | [] => []
      | ch :: r => ch :: rfReplaceAux pat new fuel r

/-- Python's `s.replace(pat, new)` for a non-empty `pat` -/
def pyStrReplace (s pat new : String) : String :=
  if pat = "" then s else String.ofList (rfReplaceAux pat.toList new.toList (s.length + 1) s.toList)

private theorem rfDropPrefix_self (p : List Char) : rfDropPrefix p p = some [] := by
  induction p with
  | nil => rfl
  | cons a r ih => simp [rfDropPrefix, ih]

private theorem rfReplaceAux_nil (a : Char) (q new : List Char) (fuel : Nat) : rfReplaceAux (a :: q) new fuel [] = [] := by
  cases fuel <;> simp [rfReplaceAux, rfDropPrefix]

private theorem rfReplaceAux_spec (q new : List Char) (pre : List Char) (hpre : '<' ∉ pre) (fuel : Nat) (hf : fuel ≥ pre.length + 1) :
    rfReplaceAux ('<' :: q) new fuel (pre ++ '<' :: q) = pre ++ new := by
  induction pre generalizing fuel with
  | nil =>
    obtain ⟨f, rfl⟩ : ∃ f, fuel = f + 1 := ⟨fuel - 1, by simp at hf; omega⟩
    simp [rfReplaceAux, rfDropPrefix_self, rfReplaceAux_nil]
  | cons ch r ih =>
    obtain ⟨f, rfl⟩ : ∃ f, fuel = f + 1 := ⟨fuel - 1, by simp at hf; omega⟩
    have hne : ch ≠ '<' := fun h => hpre (by simp [h])
    have hr : '<' ∉ r := fun h => hpre (List.mem_cons_of_mem _ h)
    simp only [List.cons_append, rfReplaceAux, rfDropPrefix, hne, if_false]
    rw [ih hr f (by simp at hf ⊢; omega)]

/-- `ReplaceSpec` is satisfiable -/
theorem pyStrReplace_spec : ReplaceSpec pyStrReplace := by
  intro pre d new hpre
  have hpat : ("<" ++ d ++ ">").toList = '<' :: (d.toList ++ ['>']) := by
    simp [String.toList_append]
  have hne : ("<" ++ d ++ ">") ≠ "" := by
    intro h
    have := congrArg String.toList h
    rw [hpat] at this
    simp at this
  unfold pyStrReplace
  have hlen : (pre ++ ("<" ++ d ++ ">")).length + 1 ≥ pre.toList.length + 1 := by
    rw [← String.length_toList, String.toList_append]
    simp
  rw [if_neg hne, hpat, String.toList_append (s := pre), hpat, rfReplaceAux_spec _ _ _ hpre _ hlen, String.ofList_append,
    String.ofList_toList, String.ofList_toList]

/-- `Vector.shape` is `()` for an empty vector and `(len,)` otherwise: at most one entry, as `footerT_vector` asks -/
theorem vectorShapeT_le {α : Type} (cells : List α) (n : Nat) : (vectorShapeT cells n).length ≤ 1 := by
  unfold vectorShapeT
  split <;> simp

theorem vectorShapeT_eq {α : Type} (cells : List α) :
    vectorShapeT cells cells.length = if cells.isEmpty then [] else [cells.length] := rfl

/-- `DataType.__repr__` is the dtype token of the footers between `<` and `>` -/
theorem dataTypeReprT_eq (otherName : Nat → String) (d : DType) :
    dataTypeReprT (kindName otherName) d = "<" ++ dtypeText otherName (some d) ++ ">" := by
  unfold dataTypeReprT
  cases hn : d.nullable <;> simp [dtypeText, hn, String.append_assoc]

/-- `_printr` of an empty vector (shape `()`) prints the vector footer alone; one- and two-dimensional shapes go to `_repr_vector` /
    `_repr_table` -/
theorem printrT_eq (otherName : Nat → String) (m n : Nat) (dt : Option DType) (rv rt : String) :
    printrT (kindName otherName) m [] n dt rv rt = (Footer.vector n (dtypeText otherName dt)).render ∧
    (∀ a, printrT (kindName otherName) m [a] n dt rv rt = rv) ∧
    (∀ a b, printrT (kindName otherName) m [a, b] n dt rv rt = rt) := by
  refine ⟨?_, fun a => rfl, fun a b => rfl⟩
  unfold printrT
  simp [footerT_vector]

/-- the lines of `_repr_vector`: the name line iff the name is truthy (showing `repr(name) if _needs_quote(name) else name`), the
    formatted values, an empty line, the vector footer with `len(v)` and the dtype token — all padded by one `ljust`/`rjust` to one width -/
theorem reprVectorT_lines {ν : Type} (otherName : Nat → String) (m : Nat) (nt nq : ν → Bool) (rp nx : ν → String)
    (lj rj : String → Nat → String) (shape : List Nat) (hs : shape.length ≤ 1) (n : Nat) (dt : Option DType) (name : ν)
    (fmt : List String) :
    ∃ (w : Nat) (pad : String → Nat → String), (pad = lj ∨ pad = rj) ∧
      reprVectorT (kindName otherName) m nt nq rp nx lj rj shape n dt name fmt =
        (if nt name then [pad (if nq name then rp name else nx name) w] else []) ++ fmt.map (pad · w) ++
          ["", (Footer.vector n (dtypeText otherName dt)).render] := by
  unfold reprVectorT
  simp only [footerT_vector otherName shape hs]
  generalize (max (if (!fmt.isEmpty) = true then pyMax (fmt.map fun s => s.length) else 0) _) = w
  cases dt with
  | none =>
    refine ⟨w, lj, .inl rfl, ?_⟩
    cases nt name <;> simp
  | some d =>
    cases hb : [Kind.int, Kind.float].contains d.kind
    · refine ⟨w, lj, .inl rfl, ?_⟩
      simp only [hb]
      cases nt name <;> simp
    · refine ⟨w, rj, .inr rfl, ?_⟩
      simp only [hb]
      cases nt name <;> simp

/-- the lines `_repr_vector` prints for the model's vector: one line per header row of the model's rendering, the formatted values,
    an empty line and the rendering of the model's footer.  `hshown` says what the model's oracle text `shownName` stands for. -/
theorem reprVector_lines (otherName : Nat → String) (rows m : Nat) (nq : Col → Bool) (rp nx : Col → String)
    (lj rj : String → Nat → String) (v : Col) (out : Out) (fmt : List String)
    (h : reprVector otherName rows v = .ok out) (hne : v.cells.isEmpty = false)
    (hshown : (if nq v then rp v else nx v) = v.shownName) :
    ∃ (w : Nat) (pad : String → Nat → String), (pad = lj ∨ pad = rj) ∧
      reprVectorT (kindName otherName) m (fun c : Col => nameTruthy c.name) nq rp nx lj rj
          (vectorShapeT v.cells v.cells.length) v.cells.length v.dtype v fmt =
        out.header.map (fun hr => pad (hr.cells.headD "") w) ++ fmt.map (pad · w) ++ ["", out.footer.render] := by
  obtain ⟨w, pad, hp, e⟩ := reprVectorT_lines otherName m (fun c : Col => nameTruthy c.name) nq rp nx lj rj
    (vectorShapeT v.cells v.cells.length) (vectorShapeT_le _ _) v.cells.length v.dtype v fmt
  refine ⟨w, pad, hp, ?_⟩
  rw [e, hshown]
  obtain ⟨_, _, rfl⟩ := (reprVector_eq_ok (by simpa using hne)).mp h
  cases nameTruthy v.name <;> rfl

/-- an empty vector prints its footer alone, the rendering of the model's (bare) footer -/
theorem printr_empty_vector (otherName : Nat → String) (rows m : Nat) (v : Col) (out : Out) (rv rt : String)
    (h : reprVector otherName rows v = .ok out) (he : v.cells = []) :
    printrT (kindName otherName) m (vectorShapeT v.cells v.cells.length) v.cells.length v.dtype rv rt = out.footer.render ∧
      out.bare = true := by
  rw [reprVector_nil he] at h
  cases h
  rw [he]
  exact ⟨(printrT_eq otherName m 0 v.dtype rv rt).1, rfl⟩

/-! ### non-vacuity: the translated definitions evaluated on concrete inputs; the hypotheses are satisfiable -/

section Examples

private def kn : Kind → String := kindName (fun _ => "Foo")

/-- `str.lower` on the names the examples use -/
private def low (s : String) : String :=
  if s == "A" then "a" else if s == "X" then "x" else if s == "Ab" then "ab" else s

private def col (name : String) (k : Kind) (nullable : Bool := false) : Col :=
  { name := some name, shownName := name, san := some (low name), lower := low name, dtype := some ⟨k, nullable⟩, cells := [] }

private def noName (k : Kind) : Col :=
  { name := none, shownName := "", san := none, lower := "", dtype := some ⟨k, false⟩, cells := [] }

example : footerT kn [3] 3 (some ⟨.int, true⟩) none false 5 = "# 3 element vector <int?>" := by decide +kernel
example : footerT kn [] 0 none none false 5 = "# 0 element vector <object>" := by decide +kernel
example : footerT kn [2, 3] 2 none (some ["int", "str", "float"]) true 1 = "# 2×3 table <int, ..., float>" := by decide +kernel
example : footerT kn [2, 3] 2 none (some ["int", "str", "float"]) false 1 = "# 2×3 table <int, str, float>" := by decide +kernel
example : footerT kn [2, 3] 2 (some ⟨.other 0, false⟩) none false 1 = "# 2×3 table <Foo>" := by decide +kernel
example : footerT kn [2, 3, 4] 2 (some ⟨.str, true⟩) none false 1 = "# 2×3×4 tensor <str?>" := by decide +kernel
example : dataTypeReprT kn ⟨.date, true⟩ = "<date?>" := by decide +kernel
example : vectorShapeT ([] : List Nat) 0 = [] ∧ vectorShapeT [7, 8] 2 = [2] := by decide +kernel

/-- the arguments the ties instantiate the translated table functions with -/
private def tf (m : Nat) (shape : List Nat) (cols : List Col) : String :=
  tableFooterT kn m (fun c : Col => c.dtype) (fun c : Col => c) (fun c => nameTruthy c.name) (fun c => c.name.getD "") (fun c => c.san)
    low (fun _ => false) id pyStrReplace shape shape.head! none cols

example : tf 1 [2, 3] [col "a" .int, col "b" .float, col "c" .int] = "# 2×3 table <int, ..., int>" := by decide +kernel
example : tf 5 [2, 3] [col "a" .int, col "b" .float true, col "c" .int] = "# 2×3 table <mixed>" := by decide +kernel
example : tf 5 [4, 2] [col "a" .str true, col "b" .str true] = "# 4×2 table <str?>" := by decide +kernel
example : tf 1 [0, 4] [col "a" .int, col "b" .float, col "c" .str, col "d" .int] = "# 0×4 table <int, ..., int>" := by decide +kernel
example : tf 5 [0, 0] [] = "# 0×0 table" := by decide +kernel

example : colIndicesT kn 2 (fun c : Col => c.dtype) (fun c : Col => c) (fun c => nameTruthy c.name) (fun c => c.name.getD "")
    (fun c => c.san) low (fun _ => false) id pyStrReplace [1, 5] 1 none
    [col "a" .int, col "b" .int, col "c" .int, col "d" .int, col "e" .int] = (true, [0, 1, 3, 4]) := by decide +kernel

/-- a hidden column claims its accessor name; a clash gets the `_<index>` suffix; a column without name is `col<index>_` -/
example : computeHeadersT kn (fun c : Col => c.dtype) (fun c : Col => c) (fun c => nameTruthy c.name) (fun c => c.name.getD "")
    (fun c => c.san) [col "A" .int, col "x" .str, col "a" .float true, noName .date, col "X" .int] [0, 2, 3, 4] =
    (["A", "a", "", "X"], ["a", "a__2", "col3_", "x__4"], ["int", "float?", "date", "int"]) := by decide +kernel

example : headerRowsT low (fun s => s == "b c") (fun s => "'" ++ s ++ "'") ["A", "...", "b c"] ["a", "...", "b_c"] ["int", "...", "str"] =
    ([["A", "...", "'b c'"], [".a", "...", ".b_c"], ["[int]", "...", "[str]"]], true) := by decide +kernel

example : headerRowsT low (fun _ => false) id ["a", "b"] ["a", "b"] ["int", "int"] = ([["a", "b"]], false) := by decide +kernel

example : reprVectorT kn 5 (fun s : String => s != "") (fun _ => false) id id (fun s _ => s) (fun s _ => s) [2] 2 (some ⟨.int, false⟩) "n" ["1", "2"] =
    ["n", "1", "2", "", "# 2 element vector <int>"] := by decide +kernel

example : printrT kn 5 [] 0 (some ⟨.float, false⟩) "V" "T" = "# 0 element vector <float>" := by decide +kernel

/-- the hypothesis on `str.replace` is satisfiable (`pyStrReplace_spec`), and `pyStrReplace` does replace -/
example : ReplaceSpec pyStrReplace := pyStrReplace_spec
example : pyStrReplace "# 2×3 table <int>" "<int>" "<mixed>" = "# 2×3 table <mixed>" := by decide +kernel

/-- the hypothesis of `tableShowTypesT_eq` is satisfiable: columns whose names need no quotes, with `str.lower` as the lower-casing -/
example : ∀ c ∈ [col "Ab" .int, col "c" .str], c.shownName = (if (fun _ => false) (c.name.getD "") then id (c.name.getD "") else c.name.getD "") ∧
    c.lower = low (c.name.getD "") := by decide +kernel

/-- the hypothesis of `reprVector_lines` is satisfiable -/
example : (if (fun _ : Col => false) (col "v" .int) then Col.shownName (col "v" .int) else (fun c : Col => c.name.getD "") (col "v" .int)) =
    (col "v" .int).shownName := by decide +kernel

end Examples

end Serif.Tie
