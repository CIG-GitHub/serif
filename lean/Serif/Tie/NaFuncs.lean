/-
  Translation tie for the None helpers of `Vector` (C06): `isna`, `dropna`, `fillna` (with `DataType.with_nullable`, `schema`,
  `copy()`) and the 1-D branches of `any` / `all` / `sum` / `min` / `max`, translated statement by statement
  (`Serif/Gen/TranslatedNa.lean`), are the model's, for every vector (typed or not) and every fill value (None included).
  A translated method returns the arguments of its constructor call `Vector(values, dtype=…)`; `callOf` reads a model vector as
  such a call.  The oracles of the translated `fillna` — `validate_scalar`, `infer_dtype`, `_promote` — are parameters: the tie
  holds for every triple that agrees with the model's typing functions (`validates`, the kind `infer` gives a one-element list,
  `promoteVec` + the element conversion) on the calls `fillna` makes, and is then instantiated with the model's own (`promoteOp`
  is `Vector._promote` as a state transformer; the model inlines it in `fillna`).  Supplementary (see Serif/Tie/Typing.lean).
-/
import Serif.Gen.TranslatedNa
import Serif.Props.C06

namespace Serif.Tie
open Serif Serif.Vec Serif.Gen.TNa

variable {α : Type}

/-- a model vector read as the constructor call that builds it: `Vector(data, dtype=dtype)` -/
def callOf (v : Vec α) : VectorCall (Option α) := { values := v.data, dtype := v.dtype }

/-- the model's boolean vector (`isna`, comparisons) as a constructor call -/
def boolCallOf (b : BoolVec) : VectorCall Bool := { values := b.data, dtype := some b.dtype }

/-- the exact type of an optional scalar, for a classification `kindOf` of the non-None values (the model's `fillna` sees the
    fill value only through `kindOf`) -/
def tagOf (kindOf : α → Kind) : Option α → Tag
  | none => .none
  | some a => .ty (kindOf a)

/-- `Vector._promote(target)` as a state transformer on `(_underlying, _dtype)` (additional definition: the model has no
    function of this shape, `Vec.fillna` inlines it as the decision `promoteVec` plus the element conversion `conv target`
    applied by `fillWith`; `promoteOp_spec` / `promoteOp_fill` relate the two).  No dtype: `self._dtype.kind` raises
    AttributeError; already the target kind: nothing happens; a supported promotion converts every non-None element and
    changes the kind; anything else raises SerifTypeError. -/
def promoteOp (conv : Kind → α → α) (s : Col α × Option DType) (target : Kind) : Res (Col α × Option DType) :=
  match s.2 with
  | none => .error .attr
  | some d =>
    if d.kind = target then .ok s
    else
      match promoteVec d.kind target with
      | none => .error .type
      | some k' => .ok (s.1.map (Option.map (conv target)), some { kind := k', nullable := d.nullable })

/-- what the tie needs to know about a `_promote` oracle `P`, relative to the model's reading of `Vector._promote` (decision
    `promoteVec`, element conversion `conv`): on a typed vector whose kind is not yet the target, `P` raises SerifTypeError
    exactly when `promoteVec` refuses, and otherwise leaves the elements converted by `conv target` (None stays None). -/
structure PromoteSpec (conv : Kind → α → α)
    (P : Col α × Option DType → Kind → Res (Col α × Option DType)) : Prop where
  refuses : ∀ (xs : Col α) (d : DType) (k : Kind), d.kind ≠ k → promoteVec d.kind k = none →
    P (xs, some d) k = .error .type
  converts : ∀ (xs : Col α) (d : DType) (k k' : Kind), d.kind ≠ k → promoteVec d.kind k = some k' →
    ∃ d', P (xs, some d) k = .ok (xs.map (Option.map (conv k)), d')

/-- the hypotheses of `fillna_eq_of_spec` are satisfiable: `promoteOp` is such an oracle -/
theorem promoteOp_spec (conv : Kind → α → α) : PromoteSpec conv (promoteOp conv) where
  refuses := by
    intro xs d k hk hp
    simp [promoteOp, hk, hp]
  converts := by
    intro xs d k k' hk hp
    exact ⟨some { kind := k', nullable := d.nullable }, by simp [promoteOp, hk, hp]⟩

theorem promoteOp_isOk (conv : Kind → α → α) (xs : Col α) (d : DType) (k : Kind) :
    (promoteOp conv (xs, some d) k).toBool = (promoteVec d.kind k).isSome := by
  by_cases hk : d.kind = k
  · simp [promoteOp, hk, promoteVec, Except.toBool]
  · cases hp : promoteVec d.kind k <;> simp [promoteOp, hk, hp, Except.toBool]

/-- `DataType.with_nullable` as translated, applied to an optional dtype the way `dropna` / `fillna` do
    (`d.with_nullable(n) if d is not None else None`), is the model's `withNullable` -/
theorem withNullable_eq (d : Option DType) (n : Bool) :
    (match d with | none => none | some d => some (withNullableT d n)) = withNullable d n := by
  cases d <;> rfl

/-- `Vector.schema()` as translated returns the `_dtype` field: the model's `Vec.dtype` is both -/
theorem schema_eq (d : Option DType) : schemaT d = d := rfl

/-- `self.copy()` as transcribed has the elements and the dtype of `self` -/
theorem copy_eq (xs : Col α) (d : Option DType) : copyT xs d = (xs, d) := rfl

/-- a generator `v for v in xs if v is not None` (translated as a `filterMap` over a `match` that returns its non-None
    argument) is the model's `nonNone` -/
theorem filterMap_guard (xs : Col α) :
    xs.filterMap (fun v => match v with | none => none | some v => some v) = nonNone xs :=
  congrArg (xs.filterMap ·) (funext fun v => by cases v <;> rfl)

/-- a generator `value if x is None else c(x) for x in xs` is the model's `fillWith c value` -/
theorem map_fillWith (f : Option α → Option α) (c : α → α) (x : Option α) (xs : Col α)
    (hf : ∀ e, f e = match e with | none => x | some a => some (c a)) : xs.map f = fillWith c x xs := by
  have : f = fun e => match e with | none => x | some a => some (c a) := funext hf
  subst this; rfl

/-- filling the promoted elements (`_promote` converted the non-None ones by `c`, then `value if x is None else x`, seen as
    elements of a vector) is the model's `fillWith c` -/
theorem promoteOp_fill (g : Option α → α) (c : α → α) (a : α) (xs : Col α)
    (hg : ∀ e, g e = match e with | none => a | some b => b) :
    ((xs.map (Option.map c)).map g).map some = fillWith c (some a) xs := by
  rw [fillWith, List.map_map, List.map_map]
  refine List.map_congr_left fun e _ => ?_
  cases e <;> simp [hg]

/-- `Vector.isna()` as translated builds the model's `isna`: `tuple(elem is None …)`, dtype `DataType(bool)` -/
theorem isna_eq (v : Vec α) : isnaT v.data v.dtype = boolCallOf (isna v) := rfl

/-- `Vector.dropna()` as translated builds the model's `dropna`: the non-None elements, `_dtype.with_nullable(False)`
    (`None` stays `None`) -/
theorem dropna_eq (v : Vec α) : dropnaT v.data v.dtype = callOf (dropna v) := by
  obtain ⟨xs, dt⟩ := v
  -- `rw [filterMap_guard]` does not fire: the `match` of the generated lambda is another auxiliary matcher than the one the
  -- lemma's statement elaborates to.  So the context around the `filterMap` is written out and `congrArg` checks it by unfolding.
  cases dt with
  | none => exact congrArg (fun l => ({ values := l.map some, dtype := none } : VectorCall _)) (filterMap_guard xs)
  | some d =>
    exact congrArg (fun l => ({ values := l.map some, dtype := some (withNullableT d false) } : VectorCall _))
      (filterMap_guard xs)

/-- an exact instance of the column's kind is always accepted by `validate_scalar` (so the promotion branch never asks
    `_promote` for the kind the vector already has) -/
theorem validates_same_kind (d : DType) : validates d (.ty d.kind) = true := by
  simp [validates]

/-- the statements after the promotion `if` (fill, `new_nullable = any(x is None for x in out)`, `dtype.with_nullable`), in the
    form they take in the translated `fillna` once the generator is read as `fillWith id`, are the model's `fillStandard` -/
theorem fillStandard_eq (xs : Col α) (dt : Option DType) (x : Option α) :
    ({ values := fillWith id x xs,
       dtype := (match dt with
                 | none => none
                 | some d => some (withNullableT d (((fillWith id x xs).map (fun e => e.isNone)).any (fun b => b)))) }
      : VectorCall (Option α))
      = callOf (fillStandard { data := xs, dtype := dt } x) := by
  rw [List.any_map]
  cases dt <;> rfl

/-- **`Vector.fillna(value)` as translated is the model's `fillna`**, given
    `hV` — `validate_scalar(value, dtype)` returns iff the model's `validates` accepts the value's exact type;
    `hI` — `infer_dtype([value]).kind` is that type; `hP` — `_promote` behaves as the model reads it (`PromoteSpec`). -/
theorem fillna_eq_of_spec (kindOf : α → Kind) (conv : Kind → α → α)
    (V : Option α → DType → Bool) (I : List (Option α) → DType)
    (P : Col α × Option DType → Kind → Res (Col α × Option DType))
    (hV : ∀ a d, V (some a) d = validates d (.ty (kindOf a)))
    (hI : ∀ a, (I [some a]).kind = kindOf a)
    (hP : PromoteSpec conv P) (v : Vec α) (x : Option α) :
    fillnaT V I P v.data v.dtype x = (fillna kindOf conv v x).map callOf := by
  obtain ⟨xs, dt⟩ := v
  unfold fillnaT
  simp only [schema_eq, copy_eq]
  -- the generator of the standard path (the first `map`): it becomes `fillWith id x xs`, the form `fillStandard_eq`
  -- is stated in
  rw [map_fillWith (c := id) (x := x) (xs := xs)]
  · have hstd := fillStandard_eq xs dt x
    cases dt with
    | none => simp only [hstd]; rfl
    | some d =>
      simp only [hstd]
      cases x with
      | none => by_cases ho : d.kind = .object <;> simp [fillna, Except.map, ho]
      | some a =>
        simp only [hV, hI]
        by_cases ho : d.kind = .object
        · simp [fillna, Except.map, ho]
        · by_cases hv : validates d (.ty (kindOf a)) = true
          · simp [fillna, Except.map, ho, hv]
          · have hv' : validates d (.ty (kindOf a)) = false := by simpa using hv
            have hk : d.kind ≠ kindOf a := by
              intro h
              rw [← h, validates_same_kind] at hv'
              cases hv'
            cases hp : promoteVec d.kind (kindOf a) with
            | none =>
              simp [fillna, Except.map, ho, hv', hp, hP.refuses xs d _ hk hp]
            | some k' =>
              obtain ⟨d', hd'⟩ := hP.converts xs d _ k' hk hp
              simp only [fillna, Except.map, hv', hp, hd']
              rw [promoteOp_fill (c := conv (kindOf a)) (a := a)]
              · simp [callOf, ho]
              · intro e; cases e <;> rfl
  · intro e; cases e <;> rfl

/-- the oracles read off the model: `validate_scalar` is `validates` on the exact type, `infer_dtype` is `infer` on the exact
    types, `_promote` is `promoteOp` -/
theorem fillna_eq (kindOf : α → Kind) (conv : Kind → α → α) (v : Vec α) (x : Option α) :
    fillnaT (fun y d => validates d (tagOf kindOf y)) (fun l => infer (l.map (tagOf kindOf))) (promoteOp conv)
      v.data v.dtype x = (fillna kindOf conv v x).map callOf :=
  fillna_eq_of_spec kindOf conv _ _ _ (fun _ _ => rfl)
    (fun a => by simp [tagOf, infer, inferStep, inferKind]) (promoteOp_spec conv) v x

/-- in particular the refusal: the translated `fillna` raises (ValueError) exactly when the model's does -/
theorem fillna_refuses_iff (kindOf : α → Kind) (conv : Kind → α → α) (v : Vec α) (x : Option α) :
    (fillnaT (fun y d => validates d (tagOf kindOf y)) (fun l => infer (l.map (tagOf kindOf))) (promoteOp conv)
      v.data v.dtype x = .error .value) ↔ fillna kindOf conv v x = .error .value := by
  rw [fillna_eq]
  cases fillna kindOf conv v x <;> simp [Except.map]

/-! For the reductions the context of the generated `filterMap` is the built-in itself (`congrArg`, for the reason given at `dropna_eq`). -/

/-- the 1-D branch of `Vector.any()` as translated is the model's `vany` -/
theorem any_eq (A : Arith α) (xs : Col α) (d : Option DType) : anyT A.truthy xs d = vany A xs :=
  congrArg (·.any A.truthy) (filterMap_guard xs)

/-- the 1-D branch of `Vector.all()` as translated is the model's `vall` -/
theorem all_eq (A : Arith α) (xs : Col α) (d : Option DType) : allT A.truthy xs d = vall A xs :=
  congrArg (·.all A.truthy) (filterMap_guard xs)

/-- both are instances of the model's `reduce` (the shape C06's `reduction_skips_none` speaks about) -/
theorem any_all_reduce (truthy : α → Bool) (xs : Col α) (d : Option DType) :
    anyT truthy xs d = reduce (fun l => l.any truthy) xs ∧ allT truthy xs d = reduce (fun l => l.all truthy) xs :=
  ⟨congrArg (·.any truthy) (filterMap_guard xs), congrArg (·.all truthy) (filterMap_guard xs)⟩

/-- the 1-D branches of `Vector.sum()`, `min()`, `max()` as translated — `f(v for v in self._underlying if v is not None)` for
    the built-in `f` — are the model's `reduce f`, whatever the built-in computes (a value, or an exception inside `ρ`) -/
theorem sum_eq {ρ : Type} (f : List α → ρ) (xs : Col α) (d : Option DType) : sumT f xs d = reduce f xs :=
  congrArg f (filterMap_guard xs)

theorem min_eq {ρ : Type} (f : List α → ρ) (xs : Col α) (d : Option DType) : minT f xs d = reduce f xs :=
  congrArg f (filterMap_guard xs)

theorem max_eq {ρ : Type} (f : List α → ρ) (xs : Col α) (d : Option DType) : maxT f xs d = reduce f xs :=
  congrArg f (filterMap_guard xs)

/-- instantiated with the model's readings of the built-ins: `vsum`, `vmin`, `vmax` -/
theorem vsum_vmin_vmax_eq (A : Arith α) (xs : Col α) (d : Option DType) :
    sumT (pySum A) xs d = vsum A xs ∧ minT (pyMin A) xs d = vmin A xs ∧ maxT (pyMax A) xs d = vmax A xs :=
  ⟨sum_eq _ xs d, min_eq _ xs d, max_eq _ xs d⟩

/-- `C06.isna_spec` for the translated `isna`: a non-nullable bool vector of the same length that marks exactly the None
    positions -/
theorem isnaT_spec (xs : Col α) (d : Option DType) :
    (isnaT xs d).dtype = some { kind := .bool, nullable := false } ∧ (isnaT xs d).values.length = xs.length ∧
    ∀ (i : Nat) (x : Option α), xs[i]? = some x → (isnaT xs d).values[i]? = some (decide (x = none)) := by
  have h := C06.isna_spec (⟨xs, d⟩ : Vec α)
  rw [show isnaT xs d = boolCallOf (isna ⟨xs, d⟩) from isna_eq ⟨xs, d⟩]
  exact ⟨congrArg some h.1, h.2.1, h.2.2⟩

/-- `C06.dropna_eq_filter_isna` for the translated pair: `dropna` keeps exactly the elements `isna` does not mark, in order -/
theorem dropnaT_eq_filter_isnaT (xs : Col α) (d : Option DType) :
    (dropnaT xs d).values = ((xs.zip (isnaT xs d).values).filter (fun p => !p.2)).map (·.1) := by
  rw [show dropnaT xs d = callOf (dropna ⟨xs, d⟩) from dropna_eq ⟨xs, d⟩,
    show isnaT xs d = boolCallOf (isna ⟨xs, d⟩) from isna_eq ⟨xs, d⟩]
  exact C06.dropna_eq_filter_isna (⟨xs, d⟩ : Vec α)

/-- `C06.fillna_dropna_nonnullable` / `fillna_dropna_agree` for the translated `fillna` (any oracles as in
    `fillna_eq_of_spec`): what `fillna(a)`, `a` not None, returns reports itself non-nullable, holds no None, and has the
    length of the vector -/
theorem fillnaT_some_nonnullable (kindOf : α → Kind) (conv : Kind → α → α)
    (V : Option α → DType → Bool) (I : List (Option α) → DType)
    (P : Col α × Option DType → Kind → Res (Col α × Option DType))
    (hV : ∀ a d, V (some a) d = validates d (.ty (kindOf a)))
    (hI : ∀ a, (I [some a]).kind = kindOf a)
    (hP : PromoteSpec conv P) (xs : Col α) (d : Option DType) (a : α) (r : VectorCall (Option α))
    (h : fillnaT V I P xs d (some a) = .ok r) :
    reportsNullable r.dtype = false ∧ none ∉ r.values ∧ (nonNone r.values).length = xs.length := by
  rw [fillna_eq_of_spec kindOf conv V I P hV hI hP ⟨xs, d⟩ (some a)] at h
  cases hr : fillna kindOf conv ⟨xs, d⟩ (some a) with
  | error e' => rw [hr] at h; cases h
  | ok r' =>
    rw [hr] at h
    cases h
    have h1 := (C06.fillna_dropna_nonnullable (kindOf := kindOf) (conv := conv) (v := ⟨xs, d⟩) (a := a)).1 r' hr
    exact ⟨h1.1, h1.2, C06.fillna_dropna_agree hr⟩

section examples
private def kindOf' (n : Nat) : Kind := if n < 100 then .int else if n < 1000 then .float else .str
private def V' : Option Nat → DType → Bool := fun y d => validates d (tagOf kindOf' y)
private def I' : List (Option Nat) → DType := fun l => infer (l.map (tagOf kindOf'))
private def P' := promoteOp (α := Nat) (fun _ n => n + 100)

example : isnaT [some 1, none, some 3] (some ⟨.int, true⟩)
    = { values := [false, true, false], dtype := some ⟨.bool, false⟩ } := by decide
example : dropnaT [some 1, none, some 3] (some ⟨.int, true⟩)
    = { values := [some 1, some 3], dtype := some ⟨.int, false⟩ } := by decide
example : dropnaT ([] : List (Option Nat)) none = { values := [], dtype := none } := by decide
-- compatible value: standard path, the result is non-nullable
example : fillnaT V' I' P' [some 1, none] (some ⟨.int, true⟩) (some 7)
    = .ok { values := [some 1, some 7], dtype := some ⟨.int, false⟩ } := by decide
-- filling with None: nothing changes, still nullable
example : fillnaT V' I' P' [some 1, none] (some ⟨.int, true⟩) none
    = .ok { values := [some 1, none], dtype := some ⟨.int, true⟩ } := by decide
-- a float into an int column: copy, promote (elements converted), fill; non-nullable float
example : fillnaT V' I' P' [some 1, none] (some ⟨.int, true⟩) (some 150)
    = .ok { values := [some 101, some 150], dtype := some ⟨.float, false⟩ } := by decide
-- a str into an int column: `_promote` raises SerifTypeError, `fillna` raises ValueError
example : fillnaT V' I' P' [some 1, none] (some ⟨.int, true⟩) (some 5000) = .error .value := by decide
-- an object column takes anything; an untyped (empty) vector stays untyped
example : fillnaT V' I' P' [some 1, none] (some ⟨.object, true⟩) (some 5000)
    = .ok { values := [some 1, some 5000], dtype := some ⟨.object, false⟩ } := by decide
example : fillnaT V' I' P' [] none (some 5000) = .ok { values := [], dtype := none } := by decide
example : anyT (fun n : Nat => n != 0) [none, some 0, some 2] none = true
    ∧ allT (fun n : Nat => n != 0) [none, some 0, some 2] none = false
    ∧ allT (fun n : Nat => n != 0) [none, none] none = true := by decide
example : sumT List.sum [some 1, none, some 2] none = 3 ∧ maxT (fun l : List Nat => l.max?) [none, none] none = none := by decide
end examples

end Serif.Tie
