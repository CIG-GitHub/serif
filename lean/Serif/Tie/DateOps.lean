/-
  Translation tie for the date vector class `_Date` (C05, C06): `_elementwise_compare`, `__add__`, the fourteen
  `(*args, **kwargs)` wrappers, `eomonth`, the list of arithmetic methods the class defines and the dtype / class decision of
  `Vector.__new__`, translated statement by statement (`Serif/Gen/TranslatedDateOps.lean`), are the model's `dateCompare`, `dateAdd`,
  `vectorBinary`, `broadcast` and `Vec.isDate`.  The model has ONE parameter `iso` for the two conversions of the other operand of
  a comparison (ISO string → date, date → midnight datetime), the source has two expressions: `isoOf` says which of them `iso` is
  for a given operand.  The base class methods reached through `super()` are parameters of the translated definitions; they are
  instantiated with the model's `compare` / `elementwise`, which `Serif/Tie/Vec.lean` ties to the base class.  A translated method
  returns the constructor call `Vector(values, dtype=…)` that builds its result; the model returns the values or a `BoolVec`, and
  `callOfValues` / `callOfBoolVec` are the (injective) embeddings used to state the equalities.
-/
import Serif.Gen.TranslatedDateOps
import Serif.Props.C05
import Serif.Props.C06

namespace Serif.Tie
open Serif Serif.Vec Serif.Gen.TDO

variable {α β γ : Type}

/-- a `BoolVec` of the model as the constructor call that builds it -/
def callOfBoolVec (b : BoolVec) : VectorCall Bool := { values := b.data, dtype := some b.dtype }

/-- the model's values as the constructor call `Vector(values)` (no `dtype=`) -/
def callOfValues (vals : Col γ) : VectorCall (Option γ) := { values := vals, dtype := none }

/-- a model outcome as the outcome of the translated method: the constructor call of the returned `BoolVec`, or the
    exception -/
def liftBool (r : Res BoolVec) : Res (VectorCall Bool) :=
  match r with
  | .ok b => .ok (callOfBoolVec b)
  | .error e => .error e

/-- the same for returned values (`Vector(values)`, no `dtype=`) -/
def liftValues (r : Res (Col γ)) : Res (VectorCall (Option γ)) :=
  match r with
  | .ok v => .ok (callOfValues v)
  | .error e => .error e

theorem callOfBoolVec_inj {a b : BoolVec} (h : callOfBoolVec a = callOfBoolVec b) : a = b := by
  cases a
  cases b
  simp [callOfBoolVec] at h
  simp [h]

theorem callOfValues_inj {a b : Col γ} (h : callOfValues a = callOfValues b) : a = b := by
  simpa [callOfValues] using h

theorem liftBool_ok {r : Res BoolVec} {c : VectorCall Bool} (h : liftBool r = .ok c) :
    ∃ b, r = .ok b ∧ c = callOfBoolVec b := by
  cases r with
  | error e => simp [liftBool] at h
  | ok b => exact ⟨b, rfl, by simpa [liftBool] using h.symm⟩

theorem liftValues_ok {r : Res (Col γ)} {c : VectorCall (Option γ)} (h : liftValues r = .ok c) :
    ∃ v, r = .ok v ∧ c = callOfValues v := by
  cases r with
  | error e => simp [liftValues] at h
  | ok v => exact ⟨v, rfl, by simpa [liftValues] using h.symm⟩

theorem vectorT_toBoolVec (r : Res (List Bool)) :
    vectorT r (some { kind := Kind.bool, nullable := false }) = liftBool (toBoolVec r) := by
  cases r <;> rfl

theorem vectorT_none (r : Res (Col γ)) : vectorT r none = liftValues r := by
  cases r <;> rfl

/-- which of the two converted comparisons of the source the model's single parameter `iso` stands for, given the operand:
    `op_iso` (`bool(op(x, date.fromisoformat(y)))`) for a str-kind Vector and a str scalar, `op_dt`
    (`bool(op(datetime.combine(x, midnight), y))`) for the datetime ones; for every other operand `iso` is not used -/
def isoOf (isStr : β → Bool) (op_iso op_dt : α → β → Res Bool) : Operand β → (α → β → Res Bool)
  | .vec _ dt => if kindIs dt .str then op_iso else op_dt
  | .scalar s => if isStr s then op_iso else op_dt
  | .seq _ => op_iso

/-- `_Date._elementwise_compare`, translated statement by statement, is the model's `dateCompare`; the base class call is
    the model's `compare` -/
theorem dateCompare_eq (isStr isDt : β → Bool) (op op_iso op_dt : α → β → Res Bool) (xs : Col α) (o : Operand β) :
    dateCompareT isStr isDt op op_iso op_dt (fun o' => liftBool (compare op xs o')) xs o
      = liftBool (dateCompare isStr isDt op (isoOf isStr op_iso op_dt o) xs o) := by
  cases o with
  | vec ys dt =>
    -- `bne_iff_ne, ne_eq, ite_not`: both length tests become `if xs.length = ys.length then … else error`
    simp only [dateCompareT, dateCompare, isoOf, kindIs,
      checkDuplicateT, isVectorT, itemsT, schemaT, ↓reduceIte,
      bne_iff_ne, ne_eq, ite_not]
    by_cases hl : xs.length = ys.length
    · simp only [hl, ↓reduceIte]
      cases dt with
      | none => rfl
      | some d =>
        simp only [Option.some_beq_some, beq_iff_eq]
        by_cases hs : d.kind = .str
        · simp only [hs, ↓reduceIte, vectorT_toBoolVec]
          -- the generated rule is a `match` inside a `fun`, not `cmpCell …` syntactically; `zipCells_congr` leaves the
          -- None case analysis
          rw [zipCells_congr (g := cmpCell op_iso)]
          intro x y
          cases x <;> cases y <;> rfl
        · by_cases hd : d.kind = .datetime
          · simp only [hd, reduceCtorEq, ↓reduceIte, vectorT_toBoolVec]
            rw [zipCells_congr (g := cmpCell op_dt)]
            intro x y
            cases x <;> cases y <;> rfl
          · simp only [hs, hd, ↓reduceIte]
    · simp only [hl, ↓reduceIte, liftBool]
  | seq ys =>
    simp only [dateCompareT, dateCompare, seqOp,
      checkDuplicateT, isVectorT, isIterableT, itemsT, Bool.false_eq_true, ↓reduceIte,
      bne_iff_ne, ne_eq, ite_not]
    by_cases hl : xs.length = ys.length
    · simp only [hl, ↓reduceIte, vectorT_toBoolVec]
      rw [zipCells_congr (g := cmpCell op)]
      intro x y
      cases x <;> cases y <;> rfl
    · simp only [hl, ↓reduceIte, liftBool, toBoolVec]
  | scalar s =>
    simp only [dateCompareT, dateCompare, isoOf,
      checkDuplicateT, isVectorT, isIterableT, asT, Bool.false_eq_true, ↓reduceIte]
    by_cases hs : isStr s = true
    · simp only [hs, ↓reduceIte, vectorT_toBoolVec]
      rw [mapRes_congr (g := fun x => cmpCell op_iso x (some s))]
      intro x _
      cases x <;> rfl
    · by_cases hd : isDt s = true
      · simp only [hs, hd, Bool.false_eq_true, ↓reduceIte, vectorT_toBoolVec]
        rw [mapRes_congr (g := fun x => cmpCell op_dt x (some s))]
        intro x _
        cases x <;> rfl
      · simp only [hs, hd, Bool.false_eq_true, ↓reduceIte]

/-- with one conversion for both branches (the model's reading) -/
theorem dateCompare_eq_same (isStr isDt : β → Bool) (op iso : α → β → Res Bool) (xs : Col α) (o : Operand β) :
    dateCompareT isStr isDt op iso iso (fun o' => liftBool (compare op xs o')) xs o
      = liftBool (dateCompare isStr isDt op iso xs o) := by
  rw [dateCompare_eq]
  congr 2
  cases o <;> simp [isoOf]

/-- a returned comparison carries the model's values and is built with `DataType(bool)` = the model's `boolDType` -/
theorem dateCompareT_ok {isStr isDt : β → Bool} {op op_iso op_dt : α → β → Res Bool} {xs : Col α} {o : Operand β}
    {c : VectorCall Bool}
    (h : dateCompareT isStr isDt op op_iso op_dt (fun o' => liftBool (compare op xs o')) xs o = .ok c) :
    ∃ r, dateCompare isStr isDt op (isoOf isStr op_iso op_dt o) xs o = .ok r ∧ c.values = r.data ∧ c.dtype = some boolDType := by
  rw [dateCompare_eq] at h
  obtain ⟨b, hb, rfl⟩ := liftBool_ok h
  refine ⟨b, hb, rfl, congrArg some ?_⟩
  rw [dateCompare_eq_compare] at hb
  exact (C06.compare_result_nonnullable_bool hb).1

/-- C06 on the translated method: where either side is None the result is False -/
theorem dateCompareT_none_false {isStr isDt : β → Bool} {op op_iso op_dt : α → β → Res Bool} {xs : Col α} {o : Operand β}
    {c : VectorCall Bool}
    (h : dateCompareT isStr isDt op op_iso op_dt (fun o' => liftBool (compare op xs o')) xs o = .ok c)
    {i : Nat} {x : Option α} {y : Option β} (hx : xs[i]? = some x) (hy : o.get? i = some y) (hn : x = none ∨ y = none) :
    c.values[i]? = some false := by
  obtain ⟨r, hr, hv, _⟩ := dateCompareT_ok h
  rw [hv]
  exact C06.date_compare_none_false hr hx hy hn

theorem dateCompareT_length {isStr isDt : β → Bool} {op op_iso op_dt : α → β → Res Bool} {xs : Col α} {o : Operand β}
    {c : VectorCall Bool}
    (h : dateCompareT isStr isDt op op_iso op_dt (fun o' => liftBool (compare op xs o')) xs o = .ok c) :
    c.values.length = xs.length := by
  obtain ⟨r, hr, hv, _⟩ := dateCompareT_ok h
  rw [dateCompare_eq_compare] at hr
  rw [hv]
  exact (C06.compare_result_nonnullable_bool hr).2

/-- a Vector or another iterable of a different length: ValueError, whatever its dtype -/
theorem dateCompareT_mismatch (isStr isDt : β → Bool) (op op_iso op_dt : α → β → Res Bool) {xs : Col α} {o : Operand β} {n : Nat}
    (hn : o.len? = some n) (hne : xs.length ≠ n) :
    dateCompareT isStr isDt op op_iso op_dt (fun o' => liftBool (compare op xs o')) xs o = .error .value := by
  rw [dateCompare_eq, dateCompare_eq_compare, Vec.compare, apply_mismatch hn hne]
  rfl

/-- `_Date.__add__`, translated statement by statement, is the model's `dateAdd`: days for an int-kind Vector (None on either
    side → None, lengths checked) and for an int scalar, otherwise the base class (the model's `elementwise` of Python's `+`) -/
theorem dateAdd_eq (S : Sem α) (xs : Col α) (o : Operand α) :
    dateAddT S.isInt S.days (fun o' => liftValues (elementwise (S.py .add) xs o')) xs o = liftValues (dateAdd S xs o) := by
  cases o with
  | vec ys dt =>
    simp only [dateAddT, dateAdd, kindIs,
      isVectorT, schemaT, itemsT, asT, Bool.true_and,
      bne_iff_ne, ne_eq, ite_not]
    cases dt with
    | none => rfl
    | some d =>
      by_cases hk : d.kind = .int
      · by_cases hl : xs.length = ys.length
        · simp only [hk, hl, BEq.rfl, ↓reduceIte, vectorT_none]
          rw [zipCells_congr (g := cell S.days)]
          intro x y
          cases x <;> cases y <;> rfl
        · simp only [hk, hl, BEq.rfl, ↓reduceIte, liftValues]
      · simp only [beq_iff_eq, hk, ↓reduceIte]
  | seq ys => simp only [dateAddT, dateAdd, isVectorT, asT, Bool.false_and, Bool.false_eq_true, ↓reduceIte]
  | scalar s =>
    simp only [dateAddT, dateAdd, isVectorT, asT, scalarOp, Bool.false_and, Bool.false_eq_true, ↓reduceIte]
    by_cases hs : S.isInt s = true
    · simp only [hs, ↓reduceIte, vectorT_none]
      rw [mapRes_congr (g := fun x => cell S.days x (some s))]
      intro x _
      cases x <;> rfl
    · simp only [hs, Bool.false_eq_true, ↓reduceIte]

/-- a returned sum carries the model's values and is built without `dtype=` (the dtype is inferred by `Vector.__new__`) -/
theorem dateAddT_ok {S : Sem α} {xs : Col α} {o : Operand α} {c : VectorCall (Option α)}
    (h : dateAddT S.isInt S.days (fun o' => liftValues (elementwise (S.py .add) xs o')) xs o = .ok c) :
    dateAdd S xs o = .ok c.values ∧ c.dtype = none := by
  rw [dateAdd_eq] at h
  obtain ⟨v, hv, rfl⟩ := liftValues_ok h
  exact ⟨hv, rfl⟩

theorem dateAddT_length {S : Sem α} {xs : Col α} {o : Operand α} {c : VectorCall (Option α)}
    (h : dateAddT S.isInt S.days (fun o' => liftValues (elementwise (S.py .add) xs o')) xs o = .ok c) :
    c.values.length = xs.length :=
  C05.length_preserved (dateAdd_eq_elementwise S xs o ▸ (dateAddT_ok h).1)

theorem dateAddT_mismatch (S : Sem α) {xs : Col α} {o : Operand α} {n : Nat} (hn : o.len? = some n) (hne : xs.length ≠ n) :
    dateAddT S.isInt S.days (fun o' => liftValues (elementwise (S.py .add) xs o')) xs o = .error .value := by
  rw [dateAdd_eq, dateAdd_eq_elementwise, elementwise, apply_mismatch hn hne]
  rfl

/-- the name of the method Python calls for `v <o> other` (`refl = false`) / `other <o> v` (`refl = true`) -/
def dunder : BinOp → Bool → String
  | .add, false => "__add__" | .sub, false => "__sub__" | .mul, false => "__mul__" | .truediv, false => "__truediv__"
  | .floordiv, false => "__floordiv__" | .mod, false => "__mod__" | .pow, false => "__pow__"
  | .add, true => "__radd__" | .sub, true => "__rsub__" | .mul, true => "__rmul__" | .truediv, true => "__rtruediv__"
  | .floordiv, true => "__rfloordiv__" | .mod, true => "__rmod__" | .pow, true => "__rpow__"

/-- of the fourteen methods the class body defines exactly `__add__` -/
theorem dateDefines_dunder (o : BinOp) (refl : Bool) :
    dateDefinesT.contains (dunder o refl) = (!refl && decide (o = .add)) := by
  cases o <;> cases refl <;> decide +kernel

/-- method resolution on a 1-D vector: a `_Date` instance (the class `Vector.__new__` picks, see `vectorNew_isDate`) uses the
    methods `class _Date` defines itself (`dateDefinesT`, read from the class body; the only one is `__add__`, whose translation
    is `dateAddT`), and `Vector`'s for everything else — this is the model's `vectorBinary` -/
theorem vectorBinary_eq (S : Sem α) (o : BinOp) (refl : Bool) (v : Vec α) (other : Operand α) :
    (if v.isDate && dateDefinesT.contains (dunder o refl)
     then dateAddT S.isInt S.days (fun o' => liftValues (elementwise (S.py .add) v.data o')) v.data other
     else liftValues (binary S.py o refl v.data other))
      = liftValues (vectorBinary S o refl v other) := by
  rw [dateAdd_eq, dateDefines_dunder, vectorBinary, Bool.and_comm]
  split <;> rfl

/-- C05 on the translated `+` of a date vector: element `i` of the result is None if either operand is, else Python's scalar
    operation for that operand form (`scalarOpOf`: days for an int-kind Vector / int scalar, `+` otherwise) -/
theorem dateAddT_pointwise {S : Sem α} {v : Vec α} (hv : v.isDate = true) {other : Operand α} {c : VectorCall (Option α)}
    (h : dateAddT S.isInt S.days (fun o' => liftValues (elementwise (S.py .add) v.data o')) v.data other = .ok c)
    {i : Nat} {x : Option α} (hx : v.data[i]? = some x) :
    ∃ y r, other.get? i = some y ∧ c.values[i]? = some r ∧ IsCellOf (scalarOpOf S .add false v other) x y r := by
  have h' : vectorBinary S .add false v other = .ok c.values := by
    simp only [vectorBinary, hv]; exact (dateAddT_ok h).1
  exact C05.pointwise_any_vector h' hx

/-- the common shape of the fourteen wrappers: `None if s is None else s.m(*args, **kwargs)` for every element, in order, the first
    exception aborting — the model's `broadcast` -/
theorem date_wrapper_eq (call : α → Res γ) (xs : Col α) :
    date_ctimeT call xs = liftValues (broadcast call xs) := by
  rw [date_ctimeT, vectorT_none, broadcast, mapRes_congr (g := cell1 call)]
  intro x _
  cases x <;> rfl

/-! The other thirteen are the same generated text under another name. -/

theorem date_fromisocalendar_eq (call : α → Res γ) (xs : Col α) : date_fromisocalendarT call xs = liftValues (broadcast call xs) :=
  date_wrapper_eq call xs
theorem date_fromisoformat_eq (call : α → Res γ) (xs : Col α) : date_fromisoformatT call xs = liftValues (broadcast call xs) :=
  date_wrapper_eq call xs
theorem date_fromordinal_eq (call : α → Res γ) (xs : Col α) : date_fromordinalT call xs = liftValues (broadcast call xs) :=
  date_wrapper_eq call xs
theorem date_fromtimestamp_eq (call : α → Res γ) (xs : Col α) : date_fromtimestampT call xs = liftValues (broadcast call xs) :=
  date_wrapper_eq call xs
theorem date_isocalendar_eq (call : α → Res γ) (xs : Col α) : date_isocalendarT call xs = liftValues (broadcast call xs) :=
  date_wrapper_eq call xs
theorem date_isoformat_eq (call : α → Res γ) (xs : Col α) : date_isoformatT call xs = liftValues (broadcast call xs) :=
  date_wrapper_eq call xs
theorem date_isoweekday_eq (call : α → Res γ) (xs : Col α) : date_isoweekdayT call xs = liftValues (broadcast call xs) :=
  date_wrapper_eq call xs
theorem date_replace_eq (call : α → Res γ) (xs : Col α) : date_replaceT call xs = liftValues (broadcast call xs) :=
  date_wrapper_eq call xs
theorem date_strftime_eq (call : α → Res γ) (xs : Col α) : date_strftimeT call xs = liftValues (broadcast call xs) :=
  date_wrapper_eq call xs
theorem date_timetuple_eq (call : α → Res γ) (xs : Col α) : date_timetupleT call xs = liftValues (broadcast call xs) :=
  date_wrapper_eq call xs
theorem date_today_eq (call : α → Res γ) (xs : Col α) : date_todayT call xs = liftValues (broadcast call xs) :=
  date_wrapper_eq call xs
theorem date_toordinal_eq (call : α → Res γ) (xs : Col α) : date_toordinalT call xs = liftValues (broadcast call xs) :=
  date_wrapper_eq call xs
theorem date_weekday_eq (call : α → Res γ) (xs : Col α) : date_weekdayT call xs = liftValues (broadcast call xs) :=
  date_wrapper_eq call xs

/-- the wrappers the class defines are exactly the fourteen tied above, in the source's order -/
theorem dateWrappers_eq : dateWrappersT = ["ctime", "fromisocalendar", "fromisoformat", "fromordinal", "fromtimestamp", "isocalendar",
    "isoformat", "isoweekday", "replace", "strftime", "timetuple", "today", "toordinal", "weekday"] := rfl

/-- the two date computations of `eomonth` in sequence (either may raise) -/
def eomonthOf (first_of_next_month minus_one_day : α → Res α) (d : α) : Res α :=
  match first_of_next_month d with
  | .error e => .error e
  | .ok first_next => minus_one_day first_next

/-- an accumulating loop whose body appends exactly one value per item (or raises): `acc` followed by the per-item values -/
theorem forT_append {ι : Type} (body : List (Option γ) → ι → Res (List (Option γ))) (step : ι → Res (Option γ))
    (hbody : ∀ out i, body out i = (match step i with
                                    | .ok v => .ok (out ++ [v])
                                    | .error e => .error e))
    (xs : List ι) (acc : List (Option γ)) :
    forT xs acc body = (match mapRes step xs with
                        | .ok r => .ok (acc ++ r)
                        | .error e => .error e) := by
  induction xs generalizing acc with
  | nil => simp [forT, mapRes]
  | cons x xs ih =>
    simp only [forT, mapRes, hbody]
    cases step x with
    | error e => rfl
    | ok v =>
      dsimp only
      rw [ih]
      cases mapRes step xs <;> simp

/-- `_Date.eomonth`, translated statement by statement (accumulator, None shortcut with `continue`, the two local values), is the
    model's `broadcast` of the two date computations -/
theorem eomonth_eq (f g : α → Res α) (xs : Col α) : eomonthT f g xs = liftValues (broadcast (eomonthOf f g) xs) := by
  simp only [eomonthT, vectorT_none]
  rw [forT_append _ (cell1 (eomonthOf f g))]
  · simp only [broadcast]
    cases mapRes (cell1 (eomonthOf f g)) xs <;> simp
  · intro out d
    cases d with
    | none => rfl
    | some d =>
      simp only [cell1, eomonthOf]
      cases f d with
      | error e => rfl
      | ok a =>
        dsimp only
        cases g a <;> rfl

/-- `_Date` is chosen exactly when the settled dtype has kind `date` — the model's `Vec.isDate` -/
theorem vectorNew_isDate (infer : Col α → DType) (initial : Col α) (dt : Option DType) :
    ((vectorNewT infer .vector initial dt).1 = PyClass.date) ↔
      Vec.isDate { data := initial, dtype := (vectorNewT infer .vector initial dt).2 } = true := by
  simp only [vectorNewT, Vec.isDate]
  generalize (if (dt.isNone && !initial.isEmpty) = true then some (infer initial) else dt) = dt'
  cases dt' with
  | none => simp
  | some d =>
    obtain ⟨k, b⟩ := d
    cases k <;> simp

/-- a given dtype is reused as it is -/
theorem vectorNew_dtype_given (infer : Col α → DType) (cls : PyClass) (initial : Col α) (d : DType) :
    (vectorNewT infer cls initial (some d)).2 = some d := by
  simp [vectorNewT]

/-- without `dtype=` it is inferred from the values when there are any … -/
theorem vectorNew_dtype_inferred (infer : Col α → DType) (cls : PyClass) {initial : Col α} (h : initial ≠ []) :
    (vectorNewT infer cls initial none).2 = some (infer initial) := by
  cases initial with
  | nil => exact absurd rfl h
  | cons a as => simp [vectorNewT]

/-- … and an empty vector built without `dtype=` has none (the "untyped empty vector" of the model: `Vec.dtype = none`) and keeps the
    class it was asked for -/
theorem vectorNew_empty_untyped (infer : Col α → DType) (cls : PyClass) :
    vectorNewT infer cls ([] : Col α) none = (cls, none) := by
  simp [vectorNewT]

/-- the result of a date comparison (`dtype=DataType(bool)`) is a plain `Vector` with the model's `boolDType` -/
theorem vectorNew_bool (infer : List Bool → DType) (vals : List Bool) :
    vectorNewT infer .vector vals (some boolDType) = (.vector, some boolDType) := by
  simp [vectorNewT, boolDType]

/-- the result of `date + days` (built without `dtype=`) is a `_Date` again iff its inferred dtype is of kind date -/
theorem vectorNew_of_dateAdd (infer : Col α → DType) {vals : Col α} (h : vals ≠ []) :
    ((vectorNewT infer .vector vals (callOfValues vals).dtype).1 = PyClass.date) ↔ (infer vals).kind = .date := by
  rw [vectorNew_isDate]
  simp only [callOfValues, vectorNew_dtype_inferred infer .vector h, Vec.isDate]
  simp

/-!
  The examples: dates are their ordinals (`Nat`).  Operands: `1000 + n` stands for the ISO string of day `n` (`1999` for a malformed string:
  `date.fromisoformat` raises ValueError), `2000 + n` for the datetime at midnight of day `n`, anything below 100 for an int. -/

private def isStrE (s : Nat) : Bool := 1000 ≤ s && s < 2000
private def isDtE (s : Nat) : Bool := 2000 ≤ s
private def opE (a b : Nat) : Res Bool := .ok (decide (a < b))
private def opIsoE (a b : Nat) : Res Bool := if b = 1999 then .error .value else .ok (decide (a < b - 1000))
private def opDtE (a b : Nat) : Res Bool := .ok (decide (a < b - 2000))
private def cmpE (xs : Col Nat) (o : Operand Nat) : Res (VectorCall Bool) :=
  dateCompareT isStrE isDtE opE opIsoE opDtE (fun o' => liftBool (compare opE xs o')) xs o

-- a str-kind Vector of ISO dates, None on both sides
example : cmpE [some 5, none, some 9] (.vec [some 1007, some 1001, none] (some ⟨.str, true⟩))
    = .ok { values := [true, false, false], dtype := some ⟨.bool, false⟩ } := by decide
-- a datetime-kind Vector goes through the other conversion
example : cmpE [some 5, some 9] (.vec [some 2007, some 2001] (some ⟨.datetime, false⟩))
    = .ok { values := [true, false], dtype := some ⟨.bool, false⟩ } := by decide
-- a date-kind Vector, and an untyped empty one, fall through to the base class
example : cmpE [some 5, none] (.vec [some 7, some 8] (some ⟨.date, false⟩))
    = .ok { values := [true, false], dtype := some ⟨.bool, false⟩ } := by decide
example : cmpE [] (.vec [] none) = .ok { values := [], dtype := some ⟨.bool, false⟩ } := by decide
-- a list is compared as it is (no ISO reading), a str scalar is parsed, a datetime scalar promotes the dates
example : cmpE [some 5, none] (.seq [some 1007, some 3]) = .ok { values := [true, false], dtype := some ⟨.bool, false⟩ } := by decide
example : cmpE [some 5, none, some 9] (.scalar 1007) = .ok { values := [true, false, false], dtype := some ⟨.bool, false⟩ } := by decide
example : cmpE [some 5, none, some 9] (.scalar 2007) = .ok { values := [true, false, false], dtype := some ⟨.bool, false⟩ } := by decide
example : cmpE [some 5, none, some 9] (.scalar 7) = .ok { values := [true, false, false], dtype := some ⟨.bool, false⟩ } := by decide
-- a malformed ISO string raises (only where the date is not None), a length mismatch raises ValueError before anything else
example : cmpE [none, some 5] (.scalar 1999) = .error .value := by decide
example : cmpE [none, none] (.scalar 1999) = .ok { values := [false, false], dtype := some ⟨.bool, false⟩ } := by decide
example : cmpE [some 5] (.vec [some 1007, some 1008] (some ⟨.str, false⟩)) = .error .value := by decide
example : cmpE [some 5] (.seq []) = .error .value := by decide
-- the hypotheses of `dateCompareT_none_false` / `dateCompareT_mismatch` are satisfiable
example : (cmpE [some 5, none] (.scalar 1007)).toOption.map (fun c => c.values[1]?) = some (some false) := by decide
example : ∃ e, cmpE [some 5] (.seq [some 1, some 2]) = .error e :=
  ⟨.value, dateCompareT_mismatch isStrE isDtE opE opIsoE opDtE (o := .seq [some 1, some 2]) (n := 2) rfl (by decide)⟩

/-- Python's `+` on the ordinals is addition; `date + n days` is written `d + 1000 * n` to tell the two apart -/
private def SE : Sem Nat := { py := fun _ a b => .ok (a + b), days := fun d n => .ok (d + 1000 * n), isInt := fun s => s < 100 }
private def addE (xs : Col Nat) (o : Operand Nat) : Res (VectorCall (Option Nat)) :=
  dateAddT SE.isInt SE.days (fun o' => liftValues (elementwise (SE.py .add) xs o')) xs o

example : addE [some 500, none, some 7] (.vec [some 2, some 3, none] (some ⟨.int, true⟩))
    = .ok { values := [some 2500, none, none], dtype := none } := by decide
example : addE [some 500, none] (.scalar 3) = .ok { values := [some 3500, none], dtype := none } := by decide
-- not an int: the base class (`+` of Python); a list, a float-kind Vector and an untyped empty Vector as well
example : addE [some 500, none] (.scalar 300) = .ok { values := [some 800, none], dtype := none } := by decide
example : addE [some 500] (.seq [some 2]) = .ok { values := [some 502], dtype := none } := by decide
example : addE [some 500] (.vec [some 2] (some ⟨.float, false⟩)) = .ok { values := [some 502], dtype := none } := by decide
example : addE [] (.vec [] none) = .ok { values := [], dtype := none } := by decide
example : addE [some 500] (.vec [some 2, some 3] (some ⟨.int, false⟩)) = .error .value := by decide
example : addE [some 500] (.vec [] (some ⟨.float, false⟩)) = .error .value := by decide

-- wrappers and eomonth: None stays None, the first exception aborts
example : date_toordinalT (fun (d : Nat) => (.ok (d + 1) : Res Nat)) [some 1, none, some 3]
    = .ok { values := [some 2, none, some 4], dtype := none } := by decide
example : date_replaceT (fun (d : Nat) => if d = 3 then (.error .value : Res Nat) else .ok d) [some 1, none, some 3] = .error .value := by
  decide
example : eomonthT (fun (d : Nat) => (.ok (d / 100 * 100 + 100) : Res Nat)) (fun d => .ok (d - 1)) [some 131, none, some 215]
    = .ok { values := [some 199, none, some 299], dtype := none } := by decide
example : eomonthT (fun (d : Nat) => if d = 999912 then (.error .other : Res Nat) else .ok (d + 100)) (fun d => .ok (d - 1))
    [some 1, some 999912, none] = .error .other := by decide

-- Vector.__new__: a given date dtype → `_Date`; no dtype → inferred when there are items, none (and the asked class) when empty
example : vectorNewT (fun (_ : Col Nat) => (⟨.date, true⟩ : DType)) .vector [some 1, none] none = (.date, some ⟨.date, true⟩) := by decide
example : vectorNewT (fun (_ : Col Nat) => (⟨.date, true⟩ : DType)) .vector [] none = (.vector, none) := by decide
example : vectorNewT (fun (_ : Col Nat) => (⟨.date, true⟩ : DType)) .vector [] (some ⟨.date, false⟩) = (.date, some ⟨.date, false⟩) := by
  decide
example : vectorNewT (fun (_ : Col Nat) => (⟨.date, true⟩ : DType)) .vector [some 1] (some ⟨.datetime, false⟩)
    = (.vector, some ⟨.datetime, false⟩) := by decide
example : dateDefinesT = ["__add__"] := rfl

end Serif.Tie
