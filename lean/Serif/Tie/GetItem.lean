/-
  Translation tie for indexing (C07): `Vector.__getitem__` and `Table.__getitem__`, translated statement by statement from the
  source (`Serif/Gen/TranslatedGetItem.lean`, written by harness/tr/getitem.py on every run), equal the model's `getitem` and
  `getitemTab` (`Serif/Model/Index.lean`) for every vector / table and every key the model describes.
  Supplementary (see Serif/Tie/Typing.lean).
-/
import Serif.Gen.TranslatedGetItem
import Serif.Proofs.Index

namespace Serif.Tie
open Serif Serif.Index Serif.Gen.TGI

variable {ν α : Type}

/-- `tuple[slice]`: the elements at the positions `slice.indices(len)` selects (the model inlines this in `getitem`) -/
def sliceGet {β : Type} (xs : List β) (s : Slice) : Res (List β) := rmap (gather xs) (sliceIndices xs.length s)

/-- keys that mean what the model's `Key` says they mean: `.tupleN n` is a tuple of length `n ≠ 1` (a 1-tuple is `.tuple1`), and a
    Vector key has a dtype (a Vector key without dtype — `Vector([])` — is treated apart: `getitem_untyped`) -/
def ProperKey : Key → Prop
  | .tuple1 k => ProperKey k
  | .tupleN n => n ≠ 1
  | .vec dt _ => dt ≠ none
  | _ => True

theorem zipStrictIf_eq (xs : List α) (es : List KElem) (h : xs.length = es.length) :
    zipStrictIf xs es = .ok (maskSel xs (es.map KElem.truthy)) := by
  induction xs generalizing es with
  | nil =>
    cases es with
    | nil => rfl
    | cons e es => simp at h
  | cons x xs ih =>
    cases es with
    | nil => simp at h
    | cons e es =>
      have h' : xs.length = es.length := by simpa using h
      simp only [zipStrictIf, ih es h', List.map_cons, maskSel]

theorem asScalar_rmap (r : Res α) : asScalar (rmap (Item.scalar (ν := ν)) r) = r := by
  cases r <;> rfl

/-- `self[x]` for an element `x` of an integer key is the model's `elemGet` -/
theorem elem_getitem (v : Vec ν α) (x : KElem) : asScalar (getitem v (elemKey x)) = elemGet v.data x := by
  cases x with
  | bool b => simp only [elemKey, getitem, asScalar_rmap, elemGet, KElem.asInt?]
  | int i => simp only [elemKey, getitem, asScalar_rmap, elemGet, KElem.asInt?]
  | other => rfl

theorem ints_eq (v : Vec ν α) (es : List KElem) :
    rmap (fun xs => Item.vec (copyWith v xs)) (mapRes (fun x => asScalar (getitem v (elemKey x))) es) = intsGet v es := by
  unfold intsGet
  rw [mapRes_congr (fun x _ => elem_getitem v x)]

theorem mask_eq (v : Vec ν α) (es : List KElem) :
    (if (v.data.length != es.length) = true then (.error Err.value : Res (Item ν α))
      else rmap (fun xs => Item.vec (copyWith v xs)) (zipStrictIf v.data es)) = maskGet v (es.map KElem.truthy) := by
  unfold maskGet
  by_cases h : v.data.length = es.length
  · simp [h, zipStrictIf_eq v.data es h]
  · simp [h]

theorem shapeT_length (v : Vec ν α) : (shapeT v).length = if v.data.isEmpty then 0 else 1 := by
  unfold shapeT; split <;> rfl

/-- the test `isinstance(key, Vector) and key.schema() is not None and key.schema().kind == K and not key.schema().nullable` on a
    Vector key with a dtype: it cannot raise, and holds for the non-nullable dtype of kind `K` -/
theorem vecTest_eq {ρ : Type} (d : DType) (es : List KElem) (K : Kind) (t e : Res ρ) :
    pyIf (pyAnd (.ok (PyKey.isVector (.vec (some d) es))) (pyAnd (.ok (PyKey.schema (.vec (some d) es)).isSome)
      (pyAnd (PyKey.schemaKindIs (.vec (some d) es) K) (pyNot (PyKey.schemaNullable (.vec (some d) es)))))) t e
      = if d.kind = K ∧ d.nullable = false then t else e := by
  obtain ⟨kd, nl⟩ := d
  by_cases hk : kd = K
  · subst hk
    cases nl <;> simp [PyKey.isVector, PyKey.schema, PyKey.schemaKindIs, PyKey.schemaNullable, pyAnd, pyNot, pyIf]
  · have hk' : (kd == K) = false := by simpa using hk
    cases nl <;> simp [PyKey.isVector, PyKey.schema, PyKey.schemaKindIs, pyAnd, pyIf, hk, hk']

/-- the test `isinstance(key, list) and {type(e) for e in key} == {T}` on a list key -/
theorem listTest_iff (es : List KElem) (isT : KElem → Bool) :
    (PyKey.isList (.list es) && PyKey.typeSetIs (.list es) isT) = true ↔ es ≠ [] ∧ es.all isT = true := by
  cases es <;> simp [PyKey.isList, PyKey.typeSetIs, PyKey.elems]

/-- **the model's `getitem` satisfies the translated body of `Vector.__getitem__`**: with tuple subscription as the model computes
    it (`getIdx`, `sliceGet`) and the recursive calls `self[...]` answered by the model; the branch for longer tuple keys (`nested`)
    is never reached. -/
theorem getitem_eq (nested : Vec ν α → Key → Res (Item ν α)) (v : Vec ν α) (k : Key) (hk : ProperKey k) :
    getitemT getIdx sliceGet nested (getitem v) v k = getitem v k := by
  cases k with
  | int i => rfl
  | tuple1 k =>
    -- `len(key) != len(self.shape)`: 1 against 0 for an empty vector, 1 otherwise
    unfold getitemT
    dsimp only [PyKey.isInt, PyKey.isTuple, PyKey.len, PyKey.item0]
    rw [shapeT_length, getitem]
    cases v.data.isEmpty <;> rfl
  | tupleN n =>
    unfold getitemT
    dsimp only [PyKey.isInt, PyKey.isTuple, PyKey.len]
    rw [shapeT_length, getitem]
    match n, hk with
    | 0, _ => cases v.data.isEmpty <;> rfl
    | n + 2, _ => cases v.data.isEmpty <;> rfl
  | vec dt es =>
    cases dt with
    | none => exact absurd rfl hk
    | some d =>
      unfold getitemT
      dsimp only [checkDuplicateT, PyKey.isInt, PyKey.isTuple, PyKey.isList, PyKey.isSlice, PyKey.elems]
      simp only [vecTest_eq, getitem, Bool.false_and, Bool.false_eq_true, if_false, ints_eq]
      split
      · exact mask_eq v es
      · rfl
  | list es =>
    unfold getitemT
    dsimp only [checkDuplicateT, PyKey.isInt, PyKey.isTuple, PyKey.isVector, PyKey.isSlice, PyKey.elems, pyAnd, pyIf]
    simp only [listTest_iff, getitem, Bool.false_eq_true, if_false, ints_eq]
    split
    · exact mask_eq v es
    · rfl
  | slice s =>
    show rmap (fun xs => Item.vec (copyWith v xs)) (sliceGet v.data s) = _
    simp only [getitem, sliceGet]
    cases sliceIndices v.data.length s <;> rfl
  | other => rfl

/-- a Vector key without dtype (`Vector([])`): every test `key.schema() is not None and …` is false without touching
    `key.schema().kind`, and the key is refused with SerifTypeError (/repo 1b5354c) — whatever the parameters; the model's `getitem`
    says `.error .type` too. -/
theorem getitem_untyped (subscr : List α → Int → Res α) (slice_of : List α → Slice → Res (List α))
    (nested : Vec ν α → Key → Res (Item ν α)) (g : Key → Res (Item ν α)) (v : Vec ν α) (es : List KElem) :
    getitemT subscr slice_of nested g v (.vec none es) = .error .type := rfl

/-- the translated body uses the recursive call only at `key[0]` and at the elements of `key` -/
theorem getitemT_congr (subscr : List α → Int → Res α) (slice_of : List α → Slice → Res (List α))
    (nested : Vec ν α → Key → Res (Item ν α)) (v : Vec ν α) (g g' : Key → Res (Item ν α)) (k : Key)
    (h0 : g (PyKey.item0 k) = g' (PyKey.item0 k)) (he : ∀ x ∈ PyKey.elems k, g (elemKey x) = g' (elemKey x)) :
    getitemT subscr slice_of nested g v k = getitemT subscr slice_of nested g' v k := by
  have hm : mapRes (fun x => asScalar (g (elemKey x))) (PyKey.elems k)
      = mapRes (fun x => asScalar (g' (elemKey x))) (PyKey.elems k) :=
    mapRes_congr (fun x hx => by rw [he x hx])
  simp only [getitemT, checkDuplicateT]
  rw [h0, hm]

/-- **the recursion of `Vector.__getitem__` has one solution, the model**: any function that answers `self[key]` by the translated
    body, with its own answers for the recursive calls, is the model's `getitem` on every proper key -/
theorem getitem_unique (nested : Vec ν α → Key → Res (Item ν α)) (v : Vec ν α) (g : Key → Res (Item ν α))
    (hg : ∀ k, g k = getitemT getIdx sliceGet nested g v k) : ∀ k, ProperKey k → g k = getitem v k := by
  -- agreement on the keys of the recursive calls, `key[0]` and the elements of `key`, gives agreement on `key`
  have step : ∀ k, ProperKey k → g (PyKey.item0 k) = getitem v (PyKey.item0 k) →
      (∀ x ∈ PyKey.elems k, g (elemKey x) = getitem v (elemKey x)) → g k = getitem v k := fun k hk h0 he => by
    rw [hg k, getitemT_congr getIdx sliceGet nested v g (getitem v) k h0 he, getitem_eq nested v k hk]
  have hother : g .other = getitem v .other := by
    rw [hg .other]; rfl
  have helem : ∀ x : KElem, g (elemKey x) = getitem v (elemKey x) := by
    intro x
    cases x with
    | other => exact hother
    | _ => exact step _ trivial hother (by intro x hx; cases hx)
  intro k
  induction k with
  | tuple1 k ih => exact fun hk => step _ hk (ih hk) fun x _ => helem x
  | other => exact fun _ => hother
  | _ => exact fun hk => step _ hk hother fun x _ => helem x

theorem forEnumReturn_eq (p : Nat → Option ν → Bool) (body : Nat → Vec ν α → Option (Vec ν α))
    (hb : ∀ i c, body i c = if p i c.name then some c else none) (i : Nat) (cs : List (Vec ν α)) :
    forEnumReturn body i cs = findCol p i cs := by
  induction cs generalizing i with
  | nil => rfl
  | cons c cs ih =>
    simp only [forEnumReturn, findCol, hb i c]
    by_cases h : p i c.name = true
    · simp [h]
    · simp [h, ih]

theorem forEnumBreak_eq (p : Nat → Option ν → Bool)
    (body : (List (Vec ν α) × Bool) → Nat → Vec ν α → (List (Vec ν α) × Bool) × Bool)
    (hb : ∀ st i c, body st i c = if p i c.name then ((st.1 ++ [c], true), true) else (st, false))
    (st : List (Vec ν α) × Bool) (i : Nat) (cs : List (Vec ν α)) :
    forEnumBreak body st i cs = match findCol p i cs with | some c => (st.1 ++ [c], true) | none => st := by
  induction cs generalizing i with
  | nil => rfl
  | cons c cs ih =>
    simp only [forEnumBreak, findCol, hb st i c]
    by_cases h : p i c.name = true
    · simp [h]
    · simp [h, ih]

section names
variable [DecidableEq ν]

/-- the sanitised-match test of the model, spelt as the bodies of the two lookup loops spell it: `hit` on a match, `miss` to go on -/
theorem matchSan_ite {ρ : Type} (ops : NameOps ν) (kl : ν) (i : Nat) (name : Option ν) (hit miss : ρ) :
    (if matchSan ops kl i name then hit else miss) =
      match name with
      | some nm =>
        match ops.sanitize nm with
        | none => if ops.sys i == kl then hit else miss
        | some base => if base == kl then hit else if ops.uniq base i == kl then hit else miss
      | none => if ops.sys i == kl then hit else miss := by
  cases name with
  | none => rfl
  | some nm =>
    cases hs : ops.sanitize nm with
    | none => simp [matchSan, hs]
    | some base => cases h1 : (base == kl) <;> simp [matchSan, hs, h1]

theorem sanitizedStepT_eq (ops : NameOps ν) (kl : ν) (i : Nat) (c : Vec ν α) :
    sanitizedStepT ops kl i c = if matchSan ops kl i c.name then some c else none := by
  rw [matchSan_ite]; rfl

/-- the block under `if isinstance(key, str)`: exact name first, then the sanitised forms, else SerifKeyError — the model's `resolve` -/
theorem nameLookup_eq (ops : NameOps ν) (cols : List (Vec ν α)) (key : ν) :
    nameLookupT ops cols key = resolve ops cols key := by
  unfold nameLookupT resolve
  have h1 := forEnumReturn_eq (α := α) (fun _ nm => nm == some key) (exactStepT key) (fun _ _ => rfl) 0 cols
  have h2 := forEnumReturn_eq (matchSan ops (ops.lower key)) (sanitizedStepT ops (ops.lower key))
    (sanitizedStepT_eq (α := α) ops (ops.lower key)) 0 cols
  simp only [h1, h2]
  rfl

theorem sanitizedAppendStepT_eq (ops : NameOps ν) (kl : ν) (st : List (Vec ν α) × Bool) (i : Nat) (c : Vec ν α) :
    sanitizedAppendStepT ops kl st i c = if matchSan ops kl i c.name then ((st.1 ++ [c], true), true) else (st, false) := by
  rw [matchSan_ite]; rfl

/-- `selected.append(f(k))`, or the exception of `f(k)` -/
def appendRes {κ β : Type} (f : κ → Res β) (acc : List β) (k : κ) : Res (List β) :=
  match f k with | .ok c => .ok (acc ++ [c]) | .error e => .error e

/-- one requested name: the column `resolve` finds is appended, a name no column answers to raises SerifKeyError -/
theorem selectStepT_eq (ops : NameOps ν) (cols acc : List (Vec ν α)) (k : ν) :
    selectStepT ops cols acc k = appendRes (resolve ops cols) acc k := by
  -- `rfl`: the appended `col.copy()` is `copyWith col col.data`, which is `col` by structure eta
  have h1 := fun st =>
    forEnumBreak_eq (α := α) (fun _ nm => nm == some k) (exactAppendStepT k) (fun _ _ _ => rfl) st 0 cols
  have h2 := fun st => forEnumBreak_eq (matchSan ops (ops.lower k)) (sanitizedAppendStepT ops (ops.lower k))
    (sanitizedAppendStepT_eq (α := α) ops (ops.lower k)) st 0 cols
  unfold selectStepT appendRes resolve
  simp only [h1, h2]
  cases findCol (fun _ nm => nm == some k) 0 cols with
  | some c => simp
  | none => cases findCol (matchSan ops (ops.lower k)) 0 cols <;> simp

theorem foldlM_append {κ β : Type} (f : κ → Res β) (ks : List κ) (acc : List β) :
    ks.foldlM (appendRes f) acc
      = match mapRes f ks with | .ok cs => .ok (acc ++ cs) | .error e => .error e := by
  induction ks generalizing acc with
  | nil => simp [mapRes, pure, Except.pure]
  | cons k ks ih =>
    simp only [List.foldlM_cons, mapRes, bind, Except.bind, appendRes]
    cases f k with
    | error e => rfl
    | ok c =>
      simp only [ih]
      cases mapRes f ks with
      | error e => rfl
      | ok cs => simp

/-- the block under `if isinstance(key, tuple) and all(isinstance(k, str) for k in key)`: every name resolved in order, the first
    miss raises — the model's `selectNames` -/
theorem selectNames_eq (ops : NameOps ν) (cols : List (Vec ν α)) (ks : List ν) :
    selectNamesT ops cols ks = selectNames ops cols ks := by
  have hstep : selectStepT ops cols = appendRes (resolve ops cols) := by
    funext acc k; exact selectStepT_eq ops cols acc k
  unfold selectNamesT selectNames
  rw [hstep, foldlM_append]
  cases mapRes (resolve ops cols) ks <;> simp [rmap]

end names

/-- `Row(self, i)` as the model computes it: the values of row `i`, column by column (inlined in `getitemTab`) -/
def rowOf (t : Tab ν α) (i : Int) : Res (TItem ν α) := rmap .row (mapRes (fun col => getIdx col.data i) t.cols)

/-- `self[i][c]` — `Row(self, i)` subscripted by the other member of a 2-tuple key (class Row) — as the model's `getTwo` inlines
    it: a cell for an int, a slice of the row for a slice, otherwise the Row attribute protocol (`unmodelled` here, C17) -/
def rowThenCol (t : Tab ν α) (i : Int) (c : Spec ν) : Res (TItem ν α) :=
  match c with
  | .int j =>
    match getIdx t.cols j with
    | .error e => .error e
    | .ok col => rmap .cell (getIdx col.data i)
  | .slice s2 =>
    match mapRes (fun col => getIdx col.data i) t.cols with
    | .error e => .error e
    | .ok vals =>
      match sliceIndices vals.length s2 with
      | .error e => .error e
      | .ok idxs => .ok (.row (gather vals idxs))
  | _ => .ok .unmodelled

/-- `rowThenCol` is what the model does for a 2-tuple key with an int row member, in either order -/
theorem rowThenCol_eq [DecidableEq ν] (ops : NameOps ν) (t : Tab ν α) (i : Int) (c : Spec ν) :
    getTwo ops t (.int i) c = rowThenCol t i c ∧ (c.isRow = false → getTwo ops t c (.int i) = rowThenCol t i c) := by
  constructor
  · cases c <;> rfl
  · intro h; cases c <;> first | rfl | cases h

/-- table keys whose Vector member (if any) has a dtype (see `ProperKey`) -/
def ProperTKey : TKey ν → Prop
  | .row (.vec dt _) => dt ≠ none
  | _ => True

theorem asVec_getitem (x : Vec ν α) (k : Key) : asVec (getitem x k) = selVec x k := by
  unfold selVec
  cases getitem x k with
  | error e => rfl
  | ok it => cases it <;> rfl

/-- `Vector(tuple(x[key] for x in self._underlying), …)` is the model's `rowsel` -/
theorem rowsel_eq_tr (t : Tab ν α) (k : Key) :
    rmap (fun cs => TItem.tab ⟨cs⟩) (mapRes (fun x => asVec (getitem x k)) t.cols) = rmap .tab (rowsel t k) := by
  unfold rowsel
  rw [mapRes_congr (fun x _ => asVec_getitem x k), rmap_rmap]
  rfl

section table
variable [DecidableEq ν]

/-- the translated `Table.__getitem__` with its parameters as the model computes them (`len(self.shape)` is 2 for a table of
    vectors, no column is itself a Table, `x[key]` on a column is the model's `getitem` — tied to `Vector.__getitem__` by
    `getitem_eq` —, recursive calls answered by `g`) -/
def getitemTabTr (ops : NameOps ν) (g : Tab ν α → TKey ν → Res (TItem ν α)) (t : Tab ν α) (key : TKey ν) : Res (TItem ν α) :=
  getitemTabT ops (fun _ => 2) Tab.nrows (fun _ => false) getIdx sliceGet rowOf rowThenCol getitem g t key

/-- a 2-tuple key with a slice in front: the rows are selected first (`row_sliced = self[row_spec]`, the model's `rowsel`), then the
    other member is applied to the result -/
theorem two_slice_eq (ops : NameOps ν) (t : Tab ν α) (s : Slice) (c : Spec ν) :
    getitemTabTr ops (getitemTab ops) t (.two (.slice s) c) = getTwo ops t (.slice s) c := by
  have e : asTab (getitemTab ops t (.row (.slice s))) = rowsel t (.slice s) := asTab_rmap_tab _
  unfold getitemTabTr getitemTabT getTwo
  -- the accessors of the key by unfolding (cheap), then the decided tests and `e`
  dsimp only [checkDuplicateTabT, TKey.asStr, TKey.asStrTuple, TKey.isTuple, TKey.len, TKey.item0, TKey.item1,
    Spec.isInt, Spec.isSlice, Spec.toTKey, Spec.isRow]
  simp only [e, if_true, bne_self_eq_false, Bool.false_eq_true, if_false, Nat.lt_irrefl, decide_false, Bool.or_true,
    Bool.not_true]
  cases rowsel t (.slice s) with
  | error e => rfl
  | ok rs =>
    cases c with
    | slice s2 =>
      simp only [Spec.sliceVal, sliceGet, if_true, Bool.false_eq_true, if_false]
      cases sliceIndices rs.cols.length s2 <;> rfl
    | _ => rfl

/-- **the model's `getitemTab` satisfies the translated body of `Table.__getitem__`**, on every proper key (branches as listed at
    `getitemTab`) -/
theorem getitemTab_eq (ops : NameOps ν) (t : Tab ν α) (key : TKey ν) (hk : ProperTKey key) :
    getitemTabTr ops (getitemTab ops) t key = getitemTab ops t key := by
  unfold getitemTabTr
  cases key with
  | name k => simp only [getitemTabT, checkDuplicateTabT, TKey.asStr, nameLookup_eq, getitemTab]
  | names ks => simp only [getitemTabT, checkDuplicateTabT, TKey.asStr, TKey.asStrTuple, selectNames_eq, getitemTab]
  | tupleN n =>
    -- `len(key) != len(self.shape)` for every length but 2; a 2-tuple without members falls through the member tests
    match n with
    | 0 | 1 | 2 => rfl
    | n + 3 => rfl
  | two a b =>
    -- the int or slice member is the row member, whichever comes first: with the slice second both sides are, by evaluation,
    -- those of the key with the slice in front
    cases a with
    | slice s => exact two_slice_eq ops t s b
    | int i => cases b <;> rfl
    | _ =>
      cases b with
      | slice s2 => exact two_slice_eq ops t s2 _
      | _ => rfl
  | row k =>
    unfold getitemTabT
    dsimp only [checkDuplicateTabT, TKey.asStr, TKey.asStrTuple, TKey.isTuple, TKey.asKey]
    simp only [Bool.false_eq_true, if_false]
    cases k with
    | int i =>
      simp only [PyKey.isInt, PyKey.intVal, if_true, getitemTab, rowOf]
      cases t.cols with
      | nil => rfl
      | cons c cs =>
        have h0 : getIdx (c :: cs) 0 = .ok c := getIdx_of_norm (normIndex_nat (Nat.zero_lt_succ _))
        simp only [h0, rmap, pyIf]
    | vec dt es =>
      cases dt with
      | none => exact absurd rfl hk
      | some d =>
        dsimp only [PyKey.isInt, PyKey.isList, PyKey.isSlice, PyKey.len]
        simp only [vecTest_eq, getitemTab, maskRows, rowsel_eq_tr, Bool.false_and, Bool.false_eq_true, if_false,
          beq_iff_eq, ne_eq, ite_not]
    | list es =>
      dsimp only [PyKey.isInt, PyKey.isVector, PyKey.isSlice, PyKey.len, pyAnd, pyIf]
      simp only [listTest_iff, getitemTab, maskRows, rowsel_eq_tr, Bool.false_eq_true, if_false, beq_iff_eq, ne_eq,
        ite_not]
    | slice s => exact rowsel_eq_tr t (.slice s)
    | tuple1 k => rfl
    | tupleN n => rfl
    | other => rfl

end table

-- between the two sections on purpose: it binds its own `[DecidableEq ν]`, which a section `variable` would double
/-- a Vector key without dtype on a table: no branch takes it, the function ends and returns None — whatever the parameters
    (the model's `getitemTab` says `.ok .none` too). -/
theorem getitemTab_untyped [DecidableEq ν] (ops : NameOps ν) (shape_len table_len : Tab ν α → Nat) (is_table : Vec ν α → Bool)
    (col_subscr : List (Vec ν α) → Int → Res (Vec ν α)) (col_slice : List (Vec ν α) → Slice → Res (List (Vec ν α)))
    (make_row : Tab ν α → Int → Res (TItem ν α)) (row_protocol : Tab ν α → Int → Spec ν → Res (TItem ν α))
    (vec_getitem : Vec ν α → Key → Res (Item ν α)) (g : Tab ν α → TKey ν → Res (TItem ν α)) (t : Tab ν α) (es : List KElem) :
    getitemTabT ops shape_len table_len is_table col_subscr col_slice make_row row_protocol vec_getitem g t (.row (.vec none es))
      = .ok .none := rfl

section table2
variable [DecidableEq ν]

/-- the translated body calls itself only with a member of a 2-tuple as key -/
theorem getitemTabTr_congr (ops : NameOps ν) (g g' : Tab ν α → TKey ν → Res (TItem ν α))
    (h : ∀ t' s, g t' (Spec.toTKey s) = g' t' (Spec.toTKey s)) (t : Tab ν α) (key : TKey ν) :
    getitemTabTr ops g t key = getitemTabTr ops g' t key := by
  simp only [getitemTabTr, getitemTabT, h]

/-- **the recursion of `Table.__getitem__` has one solution, the model**: a function that answers `self[key]` by the translated
    body, with its own answers for `self[row_spec]` and `row_sliced[col_spec]`, is the model's `getitemTab` on every proper key -/
theorem getitemTab_unique (ops : NameOps ν) (g : Tab ν α → TKey ν → Res (TItem ν α))
    (hg : ∀ t k, g t k = getitemTabTr ops g t k) : ∀ t k, ProperTKey k → g t k = getitemTab ops t k := by
  have hspec : ∀ t' s, g t' (Spec.toTKey s) = getitemTab ops t' (Spec.toTKey s) := by
    intro t' s
    have hp : ProperTKey (Spec.toTKey s) := by cases s <;> trivial
    rw [hg, ← getitemTab_eq ops t' _ hp]
    cases s <;> rfl
  intro t k hk
  rw [hg, getitemTabTr_congr ops g (getitemTab ops) hspec, getitemTab_eq ops t k hk]

end table2

/-! ### non-vacuity: the translated functions evaluated on concrete inputs (no model function inside, except the two tuple
     subscriptions passed as parameters); the hypotheses are satisfiable -/

section examples

/-- the translated `Vector.__getitem__` run with its own recursion (`fuel` nested calls) -/
def getitemRun (fuel : Nat) (v : Vec String Nat) (k : Key) : Res (Item String Nat) :=
  match fuel with
  | 0 => .error .other
  | n + 1 => getitemT getIdx sliceGet (fun _ _ => .error .other) (getitemRun n v) v k

def w5 : Vec String Nat := { data := [10, 11, 12, 13, 14], dtype := some ⟨.int, false⟩, name := some "x" }
def w0 : Vec String Nat := { data := [], dtype := none, name := none }

example : ProperKey (.tuple1 (.vec (some ⟨.bool, false⟩) [.bool true])) := by simp [ProperKey]
example : getitemRun 1 w5 (.int (-1)) = .ok (.scalar 14) := by decide +kernel
example : getitemRun 1 w5 (.int 5) = .error .index := by decide +kernel
example : getitemRun 1 w5 (.int (-6)) = .error .index := by decide +kernel
example : getitemRun 2 w5 (.tuple1 (.int 2)) = .ok (.scalar 12) := by decide +kernel
example : getitemRun 2 w0 (.tuple1 (.int 2)) = .error .key := by decide +kernel
example : getitemRun 1 w0 (.tupleN 0) = .error .index := by decide +kernel
example : getitemRun 1 w5 (.tupleN 2) = .error .key := by decide +kernel
example : getitemRun 1 w5 (.slice ⟨some (-2), none, some (-2)⟩) = .ok (.vec { w5 with data := [13, 11] }) := by decide +kernel
example : getitemRun 1 w5 (.slice ⟨none, none, some 0⟩) = .error .value := by decide +kernel
example : getitemRun 1 w5 (.vec (some ⟨.bool, false⟩) [.bool true, .bool false, .bool true, .bool false, .bool true])
    = .ok (.vec { w5 with data := [10, 12, 14] }) := by decide +kernel
example : getitemRun 1 w5 (.list [.bool true]) = .error .value := by decide +kernel
example : getitemRun 2 w5 (.list [.int (-1), .int 0, .int 0]) = .ok (.vec { w5 with data := [14, 10, 10] }) := by decide +kernel
example : getitemRun 2 w5 (.vec (some ⟨.int, false⟩) [.int 1, .int 7]) = .error .index := by decide +kernel
example : getitemRun 2 w5 (.list [.int 1, .bool true]) = .error .type := by decide +kernel
example : getitemRun 2 w5 (.vec (some ⟨.bool, true⟩) [.bool true, .other]) = .error .type := by decide +kernel
example : getitemRun 1 w5 (.list []) = .error .type := by decide +kernel
example : getitemRun 1 w5 (.vec none []) = .error .type := by decide +kernel
example : getitemRun 1 w5 .other = .error .type := by decide +kernel
-- and the model agrees (an instance of `getitem_eq`)
example : getitemRun 2 w5 (.list [.int (-1), .int 0, .int 0]) = getitem w5 (.list [.int (-1), .int 0, .int 0]) := by decide +kernel

def opsEx : NameOps String :=
  { lower := fun s => if s = "A_B" then "a_b" else s
    sanitize := fun s => if s = "A b" then some "a_b" else if s = "!!" then none else some s
    uniq := fun b i => b ++ "__" ++ toString i
    sys := fun i => "col" ++ toString i ++ "_" }
def tEx : Tab String Nat :=
  ⟨[{ data := [1, 2, 3], dtype := none, name := some "a" }, { data := [4, 5, 6], dtype := none, name := some "A b" },
    { data := [7, 8, 9], dtype := none, name := some "a" }, { data := [0, 0, 0], dtype := none, name := none },
    { data := [5, 5, 5], dtype := none, name := some "!!" }]⟩

/-- the translated `Table.__getitem__` run with its own recursion; `x[key]` on a column is the translated `Vector.__getitem__` -/
def getitemTabRun (fuel : Nat) (t : Tab String Nat) (k : TKey String) : Res (TItem String Nat) :=
  match fuel with
  | 0 => .error .other
  | n + 1 => getitemTabT opsEx (fun _ => 2) Tab.nrows (fun _ => false) getIdx sliceGet rowOf rowThenCol (getitemRun 2)
      (getitemTabRun n) t k

example : nameLookupT opsEx tEx.cols "a" = .ok { data := [1, 2, 3], dtype := none, name := some "a" } := by decide +kernel
example : nameLookupT opsEx tEx.cols "A_B" = .ok { data := [4, 5, 6], dtype := none, name := some "A b" } := by decide +kernel
example : nameLookupT opsEx tEx.cols "a__2" = .ok { data := [7, 8, 9], dtype := none, name := some "a" } := by decide +kernel
example : nameLookupT opsEx tEx.cols "col3_" = .ok { data := [0, 0, 0], dtype := none, name := none } := by decide +kernel
example : nameLookupT opsEx tEx.cols "col4_" = .ok { data := [5, 5, 5], dtype := none, name := some "!!" } := by decide +kernel
example : nameLookupT opsEx tEx.cols "b" = .error .key := by decide +kernel
example : (selectNamesT opsEx tEx.cols ["col3_", "a", "a"]).toOption.map (·.cols.map (·.data))
    = some [[0, 0, 0], [1, 2, 3], [1, 2, 3]] := by decide +kernel
example : selectNamesT opsEx tEx.cols ["a", "missing", "a"] = .error .key := by decide +kernel
example : getitemTabRun 1 tEx (.name "A_B") = .ok (.col { data := [4, 5, 6], dtype := none, name := some "A b" }) := by decide +kernel
example : getitemTabRun 1 tEx (.row (.int (-1))) = .ok (.row [3, 6, 9, 0, 5]) := by decide +kernel
example : getitemTabRun 1 ⟨[]⟩ (.row (.int 0)) = .error .index := by decide +kernel
example : getitemTabRun 1 tEx (.row (.list [.bool true, .bool false])) = .error .other := by decide +kernel
example : getitemTabRun 1 tEx (.row (.list [.int 0])) = .ok .none := by decide +kernel
example : getitemTabRun 1 tEx (.tupleN 3) = .error .key := by decide +kernel
example : getitemTabRun 2 tEx (.two (.names ["a", "col3_"]) (.slice ⟨some 1, none, none⟩))
    = .ok (.tab ⟨[{ data := [2, 3], dtype := none, name := some "a" }, { data := [0, 0], dtype := none, name := none }]⟩) := by decide +kernel
example : getitemTabRun 2 tEx (.two (.slice ⟨none, none, some (-1)⟩) (.int 1))
    = .ok (.col { data := [6, 5, 4], dtype := none, name := some "A b" }) := by decide +kernel
example : getitemTabRun 2 tEx (.two (.int 1) (.int 2)) = .ok (.cell 8) := by decide +kernel
example : getitemTabRun 2 tEx (.two (.name "a") (.name "a")) = .error .key := by decide +kernel
example : getitemTabRun 2 tEx (.two (.slice ⟨none, none, none⟩) (.names ["a", "zz"])) = .error .key := by decide +kernel
example : getitemTabRun 2 tEx (.two (.names ["a", "col3_"]) (.slice ⟨some 1, none, none⟩))
    = getitemTab opsEx tEx (.two (.names ["a", "col3_"]) (.slice ⟨some 1, none, none⟩)) := by decide +kernel

end examples

end Serif.Tie
