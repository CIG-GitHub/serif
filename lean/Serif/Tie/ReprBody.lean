/-
  Translation tie for the body lines of repr (C20).

  `harness/tr/reprbody.py` translates, statement by statement, from the current source (`Serif/Gen/TranslatedReprBody.lean`,
  regenerated on every run): `display.set_repr_rows`, `_needs_quote`, `_format_column` (whole), `_align_columns` (whole) and three
  slices of `_repr_table` (`max_preview`; `formatted_cols` after the `...` column was inserted; `lines` before the footer is appended).
  This file proves them equal to the model of `Serif/Model/Repr.lean`.

  Parameters / oracles (not translated): `str.ljust` / `str.rjust` (any functions in the `_eq` theorems; `pyLjust` / `pyRjust` defined here
  where "adds only spaces" is stated), the per-value `if`/`elif` chain of `_format_column` (instantiated with the model's `fmtShown`; tied to
  the source in Serif/Tie/Repr.lean), `_format_column` inside `_repr_table` (any function in `tableFormattedColsT_eq`), `str.isidentifier`,
  `str.isdigit`, `float()`, `str.lower`, `_get_reserved_names()`.
  The model has no padding and inlines `formatted_cols` in `tableBody`; `padColumn`, `colWidth`, `padFor`, `budget` are defined
  here (`tableBody_eq` shows the model's `tableBody` is the translated `formatted_cols` read row by row).
  Supplementary (see Serif/Tie/Typing.lean).
-/
import Serif.Gen.TranslatedReprBody
import Serif.Props.C20

namespace Serif.Tie
open Serif Serif.Repr Serif.Gen.TRB

/-- `set_repr_rows(n)` makes `n` the global limit, whatever it was before -/
theorem setReprRowsT_some (old n : Nat) : setReprRowsT old (some n) = n := rfl

/-- `set_repr_rows(None)` resets the global to the literal the constant extraction reads (`Gen.reprRowsReset`), which is the value the
    module starts with (`Gen.reprRowsDefault`) -/
theorem setReprRowsT_none (old : Nat) :
    setReprRowsT old none = Gen.reprRowsReset ∧ setReprRowsT old none = Gen.reprRowsDefault := ⟨rfl, rfl⟩

/-- the per-table override of `_repr_table`: `tbl._repr_rows // 2` when it is set, else `None` (the global decides) -/
theorem tableMaxPreviewT_eq (r : Option Nat) : tableMaxPreviewT true r = r.map (· / 2) := by
  cases r <;> rfl

/-- an object without the attribute `_repr_rows` has no override -/
theorem tableMaxPreviewT_noattr (r : Option Nat) : tableMaxPreviewT false r = none := by
  cases r <;> rfl

/-- the preview budget `_format_column(col, max_preview)` works with when the global limit is `rows` -/
def budget (rows : Nat) (mp : Option Nat) : Nat := mp.getD (rows / 2)

/-- a vector is formatted with half the global limit (`reprVector` uses `rows / 2`) -/
theorem budget_vector (rows : Nat) : budget rows none = rows / 2 := rfl

/-- the budget of a table is the model's `tableK`: the table's own `_repr_rows // 2`, else half the global limit -/
theorem budget_table (rows : Nat) (t : Tab) : budget rows (tableMaxPreviewT true t.reprRows) = tableK rows t := by
  unfold tableK budget
  rw [tableMaxPreviewT_eq]
  cases t.reprRows <;> rfl

private theorem pyForAppend_eq {α : Type} (f : α → Res String) (xs : List α) (out : List String) :
    pyForAppend f xs out = (match mapRes f xs with
      | .error e => .error e
      | .ok l => .ok (out ++ l)) := by
  induction xs generalizing out with
  | nil => simp [pyForAppend, mapRes]
  | cons a r ih =>
    simp only [pyForAppend, mapRes]
    cases f a with
    | error e => rfl
    | ok s =>
      simp only []
      rw [ih]
      cases mapRes f r with
      | error e => rfl
      | ok l => simp

/-- `max(len(s) for s in xs) if xs else 0`: the guard only protects Python's `max` from the empty sequence -/
private theorem pyMax_guard {α : Type} (xs : List α) (f : α → Nat) :
    (if (!xs.isEmpty) = true then pyMax (xs.map f) else 0) = pyMax (xs.map f) := by
  cases xs <;> rfl

/-- `col._dtype and col._dtype.kind in (int, float)` -/
def numericDType (dt : Option DType) : Bool :=
  match dt with
  | some d => [Kind.int, Kind.float].contains d.kind
  | none => false

/-- the last three statements of `_format_column`: every text padded to the longest one, numbers on the right -/
def padColumn (lj rj : String → Nat → String) (dt : Option DType) (out : List String) : List String :=
  out.map (fun s => (if numericDType dt then rj else lj) s (pyMax (out.map (·.length))))

/-- the last three statements of `_format_column` as translated (`max_len` is only computed for a non-empty `out`) -/
theorem padColumn_eq (lj rj : String → Nat → String) (dt : Option DType) (out : List String) :
    (if numericDType dt = true then
        (Except.ok (out.map (fun s => rj s (if (!out.isEmpty) = true then pyMax (out.map (fun s => s.length)) else 0))) : Res (List String))
      else Except.ok (out.map (fun s => lj s (if (!out.isEmpty) = true then pyMax (out.map (fun s => s.length)) else 0)))) =
      Except.ok (padColumn lj rj dt out) := by
  simp only [pyMax_guard, padColumn]
  cases numericDType dt <;> rfl

/-- `_format_column`, translated, is the model's `formatColumn` followed by the padding; it raises exactly when the model's does.  The per-value chain is the
    model's `fmtShown` (tied to the source by `fmtBranch_eq` / `fmtShown_eq` in Serif/Tie/Repr.lean). -/
theorem formatColumnT_eq (rows : Nat) (lj rj : String → Nat → String) (col : Col) (mp : Option Nat) :
    formatColumnT rows (fmtShown (col.dtype.map (·.kind))) lj rj col.cells col.dtype mp =
      (match formatColumn (budget rows mp) col with
       | .error e => .error e
       | .ok out => .ok (padColumn lj rj col.dtype out)) := by
  unfold formatColumnT formatColumn
  cases mp <;>
  · simp only [budget, Option.getD, pyForAppend_eq, decide_eq_true_eq, List.nil_append, ← preview.eq_1]
    generalize mapRes (fmtShown _) _ = r
    cases r with
    | error e => rfl
    | ok out => exact padColumn_eq lj rj col.dtype out

/-- the number of body lines of a column of `n` values: all of them when `n ≤ 2 * max_preview`, else `max_preview + 1 + max_preview` -/
theorem formatColumnT_length (rows : Nat) (lj rj : String → Nat → String) (col : Col) (mp : Option Nat) (lines : List String)
    (h : formatColumnT rows (fmtShown (col.dtype.map (·.kind))) lj rj col.cells col.dtype mp = .ok lines) :
    lines.length = (if col.cells.length > 2 * budget rows mp then 2 * budget rows mp + 1 else col.cells.length) ∧
      lines.length = (preview (budget rows mp) col.cells).length := by
  rw [formatColumnT_eq] at h
  split at h
  · cases h
  · rename_i out ho
    cases h
    have := formatColumn_length _ _ _ ho
    simp only [padColumn, List.length_map]
    exact ⟨by rw [this, C20.preview_length], this⟩

/-- line `i` of the column is the padded text of entry `i` of the model's preview -/
theorem formatColumnT_line (rows : Nat) (lj rj : String → Nat → String) (col : Col) (mp : Option Nat) (lines : List String)
    (h : formatColumnT rows (fmtShown (col.dtype.map (·.kind))) lj rj col.cells col.dtype mp = .ok lines)
    (i : Nat) (s : Shown Cell) (hs : (preview (budget rows mp) col.cells)[i]? = some s) :
    ∃ (t : String) (w : Nat), fmtShown (col.dtype.map (·.kind)) s = .ok t ∧
      lines[i]? = some ((if numericDType col.dtype then rj else lj) t w) := by
  rw [formatColumnT_eq] at h
  split at h
  · cases h
  · rename_i out ho
    cases h
    obtain ⟨t, ht, hi⟩ := mapRes_ok_getElem? ho hs
    exact ⟨t, pyMax (out.map (·.length)), ht, by simp [padColumn, hi]⟩

/-- the `...` line stands at position `max_preview` of a column longer than `2 * max_preview`, whatever the dtype -/
theorem formatColumnT_ellipsis (rows : Nat) (lj rj : String → Nat → String) (col : Col) (mp : Option Nat) (lines : List String)
    (h : formatColumnT rows (fmtShown (col.dtype.map (·.kind))) lj rj col.cells col.dtype mp = .ok lines)
    (hlong : col.cells.length > 2 * budget rows mp) :
    ∃ w : Nat, lines[budget rows mp]? = some ((if numericDType col.dtype then rj else lj) "..." w) := by
  obtain ⟨t, w, ht, hl⟩ := formatColumnT_line rows lj rj col mp lines h (budget rows mp) .ellipsis
    (C20.preview_ellipsis_position _ _ hlong)
  cases ht
  exact ⟨w, hl⟩

private theorem ite_append {β : Type} (c : Prop) [Decidable c] (acc : List β) (a b : β) :
    (if c then acc ++ [a] else acc ++ [b]) = acc ++ [if c then a else b] := by
  split <;> rfl

private theorem range_map_getD {α β : Type} (l : List α) (d : α) (F : α → Nat → β) :
    (List.range l.length).map (fun c => F (l.getD c d) c) = l.zipIdx.map (fun p => F p.1 p.2) := by
  rw [List.map_range_getD (fun i a => F a i), List.mapIdx_eq_zipIdx_map]

private theorem range_map_getD' {α β : Type} (l : List α) (d : α) (G : α → β) :
    (List.range l.length).map (fun c => G (l.getD c d)) = l.map G := by
  rw [range_map_getD l d fun a _ => G a]; exact List.map_zipIdx_fst G l 0

private theorem le_pyMax (l : List Nat) (x : Nat) (h : x ∈ l) : x ≤ pyMax l := by
  rw [pyMax, List.foldl_max]
  cases hm : l.max? with
  | none => simp [List.max?_eq_none_iff.mp hm] at h
  | some M => exact Nat.le_trans ((List.max?_le_iff hm).mp (Nat.le_refl M) x h) (Nat.le_max_right 0 M)

/-- the width `_align_columns` gives column `c`: the longest body cell or header cell -/
def colWidth (fcols hdrs : List (List String)) (c : Nat) : Nat :=
  max (pyMax ((fcols.getD c []).map (·.length))) (pyMax (hdrs.map (fun row => (row.getD c "").length)))

/-- `col_widths` -/
def colWidths (fcols hdrs : List (List String)) : List Nat := (List.range fcols.length).map (colWidth fcols hdrs)

/-- which way column `c` is padded: to the right iff its displayed dtype token is `int` or `float` -/
def padFor (lj rj : String → Nat → String) (dts : List String) (c : Nat) : String → Nat → String :=
  if ["int", "float"].contains (dts.getD c "") then rj else lj

/-- `_align_columns`, translated: every body cell of column `c` is padded to `colWidth c`, every header cell likewise, in the
    column's direction; no cell is added, dropped or moved -/
theorem alignColumnsT_eq (lj rj : String → Nat → String) (fcols hdrs : List (List String)) (dts : List String) :
    alignColumnsT lj rj fcols hdrs dts =
      (fcols.zipIdx.map (fun p => p.1.map (fun s => padFor lj rj dts p.2 s (colWidth fcols hdrs p.2))),
       hdrs.map (fun row => row.zipIdx.map (fun p => padFor lj rj dts p.2 p.1 ((colWidths fcols hdrs).getD p.2 0)))) := by
  have hw : ∀ c, (max (if (!(fcols.getD c []).isEmpty) = true then pyMax ((fcols.getD c []).map fun s => s.length) else 0)
      (if (!hdrs.isEmpty) = true then pyMax ((List.range hdrs.length).map fun r => ((hdrs.getD r []).getD c "").length) else 0)) =
      colWidth fcols hdrs c := by
    intro c
    rw [range_map_getD' hdrs [] (fun row => (row.getD c "").length), pyMax_guard, pyMax_guard, colWidth]
  unfold alignColumnsT
  simp only [hw, ite_append, List.foldl_append_singleton, List.nil_append]
  refine Prod.ext ?_ ?_
  · simp only []
    rw [← range_map_getD fcols [] (fun col c => col.map (fun s => padFor lj rj dts c s (colWidth fcols hdrs c)))]
    apply List.map_congr_left
    intro c hc
    have hc' : c < fcols.length := List.mem_range.mp hc
    have hg : ((List.range fcols.length).map (colWidth fcols hdrs)).getD c 0 = colWidth fcols hdrs c := by
      simp [List.getD_eq_getElem?_getD, hc']
    simp only [hg, padFor]
    split <;> rfl
  · simp only [colWidths, padFor]
    apply List.map_congr_left
    intro row _
    apply List.map_congr_left
    intro p _
    split <;> rfl

theorem alignColumnsT_shape (lj rj : String → Nat → String) (fcols hdrs : List (List String)) (dts : List String) :
    (alignColumnsT lj rj fcols hdrs dts).1.map (·.length) = fcols.map (·.length) ∧
    (alignColumnsT lj rj fcols hdrs dts).2.map (·.length) = hdrs.map (·.length) := by
  rw [alignColumnsT_eq]
  constructor
  · apply List.ext_getElem <;> simp
  · simp

theorem colWidth_ge_body (fcols hdrs : List (List String)) (c : Nat) (s : String) (hs : s ∈ fcols.getD c []) :
    s.length ≤ colWidth fcols hdrs c :=
  Nat.le_trans (le_pyMax _ _ (List.mem_map.mpr ⟨s, hs, rfl⟩)) (Nat.le_max_left _ _)

theorem colWidth_ge_header (fcols hdrs : List (List String)) (c : Nat) (row : List String) (hr : row ∈ hdrs) :
    (row.getD c "").length ≤ colWidth fcols hdrs c :=
  Nat.le_trans (le_pyMax _ _ (List.mem_map.mpr ⟨row, hr, rfl⟩)) (Nat.le_max_right _ _)

/-- Python's `s.ljust(w)` -/
def pyLjust (s : String) (w : Nat) : String := s ++ String.ofList (List.replicate (w - s.length) ' ')

/-- Python's `s.rjust(w)` -/
def pyRjust (s : String) (w : Nat) : String := String.ofList (List.replicate (w - s.length) ' ') ++ s

/-- `t` is `s` between spaces: what `str.ljust` / `str.rjust` may do to a cell -/
def IsPadOf (t s : String) : Prop :=
  ∃ a b : Nat, t.toList = List.replicate a ' ' ++ s.toList ++ List.replicate b ' '

theorem isPadOf_refl (s : String) : IsPadOf s s := ⟨0, 0, by simp⟩

theorem pyLjust_isPad (s : String) (w : Nat) : IsPadOf (pyLjust s w) s :=
  ⟨0, w - s.length, by simp [pyLjust, String.toList_append]⟩

theorem pyRjust_isPad (s : String) (w : Nat) : IsPadOf (pyRjust s w) s :=
  ⟨w - s.length, 0, by simp [pyRjust, String.toList_append]⟩

theorem isPadOf_trans {u t s : String} (h1 : IsPadOf u t) (h2 : IsPadOf t s) : IsPadOf u s := by
  obtain ⟨a, b, h1⟩ := h1
  obtain ⟨a', b', h2⟩ := h2
  refine ⟨a + a', b' + b, ?_⟩
  rw [h1, h2, ← List.replicate_append_replicate, ← List.replicate_append_replicate]
  simp only [List.append_assoc]

/-- what `lineMatches` compares -/
theorem isPadOf_despace {t s : String} (h : IsPadOf t s) : despace t.toList = despace s.toList := by
  obtain ⟨a, b, h⟩ := h
  rw [h]
  simp [despace, List.filter_append]

/-- padding fills up to the width and never cuts -/
theorem pyLjust_length (s : String) (w : Nat) : (pyLjust s w).length = max w s.length := by
  simp only [pyLjust, ← String.length_toList, String.toList_append, List.length_append, String.toList_ofList, List.length_replicate]
  rw [Nat.add_comm, Nat.sub_add_eq_max]

theorem pyRjust_length (s : String) (w : Nat) : (pyRjust s w).length = max w s.length := by
  simp only [pyRjust, ← String.length_toList, String.toList_append, List.length_append, String.toList_ofList, List.length_replicate]
  rw [Nat.sub_add_eq_max]

theorem padFor_isPad (dts : List String) (c : Nat) (s : String) (w : Nat) : IsPadOf (padFor pyLjust pyRjust dts c s w) s := by
  unfold padFor
  split
  · exact pyRjust_isPad s w
  · exact pyLjust_isPad s w

/-- the lines of `_repr_table` before the footer: one line per header row, then one line per row index `r` of the first aligned
    column holding cell `r` of *every* aligned column in column order (the model's `rowsOf`), joined by the two-space gutter, then the
    empty line -/
theorem tableLinesT_eq (acols ahdrs : List (List String)) :
    tableLinesT acols ahdrs =
      ahdrs.map (pyJoin "  ") ++ (rowsOf (acols.headD []).length acols).map (pyJoin "  ") ++ [""] := by
  unfold tableLinesT rowsOf
  simp only [List.foldl_append_singleton, List.nil_append, List.map_map]
  cases acols <;> simp [Function.comp_def]

theorem tableLinesT_length (acols ahdrs : List (List String)) :
    (tableLinesT acols ahdrs).length = ahdrs.length + (acols.headD []).length + 1 := by
  rw [tableLinesT_eq]
  simp [rowsOf]
  omega

theorem rowsOf_row_length (n : Nat) (cols : List (List String)) (row : List String) (h : row ∈ rowsOf n cols) :
    row.length = cols.length := by
  simp only [rowsOf, List.mem_map, List.mem_range] at h
  obtain ⟨r, _, rfl⟩ := h
  simp

private theorem pyMapM_eq {α β : Type} (f : α → Res β) (l : List α) : pyMapM f l = mapRes f l := by
  induction l with
  | nil => rfl
  | cons a r ih =>
    simp only [pyMapM, mapRes, ih]
    rfl

/-- `[g(i) for i in idxs]` where `g(i)` is `f(l[i])` on every index in range -/
private theorem mapRes_idx {α β : Type} (f : α → Res β) (g : Nat → Res β) (l : List α) (idxs : List Nat)
    (h : ∀ i ∈ idxs, i < l.length) (hg : ∀ i (hi : i < l.length), g i = f l[i]) :
    mapRes g idxs = mapRes f (idxs.filterMap (fun i => l[i]?)) := by
  induction idxs with
  | nil => rfl
  | cons i r ih =>
    have hi : i < l.length := h i List.mem_cons_self
    rw [mapRes, hg i hi, ih fun j hj => h j (List.mem_cons_of_mem _ hj), List.filterMap_cons,
      List.getElem?_eq_getElem hi, mapRes]

/-- `formatted_cols` of `_repr_table`, translated: `_format_column` with the table's `max_preview`, applied to the model's displayed
    columns (`shownCols`: all of them, or the first and last `m`) in order — raising iff one of them raises, first failure first —,
    and, when columns are hidden, a column of `...` of the same number of lines inserted at position `m`. -/
theorem tableFormattedColsT_eq {γ : Type} (m : Nat) (fc : γ → Option Nat → Res (List String)) (has : Bool) (rr : Option Nat)
    (cols : List γ) :
    tableFormattedColsT m fc has rr cols =
      (match mapRes (fun c => fc c (tableMaxPreviewT has rr)) (shownCols m cols) with
       | .error e => .error e
       | .ok f => .ok (if cols.length > m * 2 then insertAt m (List.replicate (f.headD []).length "...") f else f)) := by
  unfold tableFormattedColsT
  simp only [← tableMaxPreviewT.eq_1, pyMapM_eq]
  rw [colIndices_eq pyRange (fun _ _ => rfl),
    mapRes_idx (fun c => fc c (tableMaxPreviewT has rr)) _ cols _ (fun _ h => (mem_shownIdx.mp h).1)
      (fun i hi => by rw [List.getElem?_eq_getElem hi]), shownIdx_filterMap]
  cases mapRes (fun c => fc c (tableMaxPreviewT has rr)) (shownCols m cols) with
  | error e => rfl
  | ok f =>
    have hh : f.getD 0 [] = f.headD [] := by cases f <;> rfl
    simp only [List.map_const', List.length_range, hh, decide_eq_true_eq, pyInsert, insertAt]

private theorem head_insert (m : Nat) (f : List (List String)) :
    ((insertAt m (List.replicate (f.headD []).length "...") f).headD []).length = (f.headD []).length := by
  cases m <;> cases f <;> simp [insertAt]

/-- the body of the model's `reprTable` is the transposition of the translated `formatted_cols` (with the model's unpadded
    `formatColumn` as `_format_column`, the per-table override `t.reprRows` and the global limit `rows`): same rows, same cells, the
    `...` cells in the same column of every row; and it raises exactly when the translated code does -/
theorem tableBody_eq (rows m : Nat) (t : Tab) :
    tableBody (tableK rows t) m t.cols =
      (match tableFormattedColsT m (fun c mp => formatColumn (budget rows mp) c) true t.reprRows t.cols with
       | .error e => .error e
       | .ok f => .ok (rowsOf (f.headD []).length f)) := by
  rw [tableFormattedColsT_eq]
  simp only [budget_table]
  unfold tableBody
  cases mapRes (formatColumn (tableK rows t)) (shownCols m t.cols) with
  | error e => rfl
  | ok f =>
    simp only []
    split
    · rw [head_insert]
    · rfl

/-- the cells of `padded` are, one by one, those of `cells` between spaces (`IsPadOf`): an aligned row against the row
    it shows -/
inductive PadRow : List String → List String → Prop
  | nil : PadRow [] []
  | cons {p c : String} {ps cs : List String} : IsPadOf p c → PadRow ps cs → PadRow (p :: ps) (c :: cs)

/-- the gutter is spaces only -/
theorem despace_pyJoin (l : List String) :
    despace (pyJoin "  " l).toList = despace (l.flatMap (·.toList)) := by
  induction l with
  | nil => simp [pyJoin, despace]
  | cons a r ih =>
    cases r with
    | nil => simp [pyJoin, String.intercalate_singleton]
    | cons b r' =>
      simp only [pyJoin] at ih ⊢
      rw [String.intercalate_cons_cons]
      simp only [String.toList_append, List.flatMap_cons, despace, List.filter_append] at ih ⊢
      rw [ih]
      simp

theorem padRow_despace {padded cells : List String} (h : PadRow padded cells) :
    despace (padded.flatMap (·.toList)) = despace (cells.flatMap (·.toList)) := by
  induction h with
  | nil => rfl
  | cons hpc _ ih =>
    have hp := isPadOf_despace hpc
    simp only [List.flatMap_cons, despace, List.filter_append] at ih hp ⊢
    rw [ih, hp]

theorem line_despace (padded cells : List String) (h : PadRow padded cells) :
    despace (pyJoin "  " padded).toList = despace (cells.flatMap (·.toList)) :=
  (despace_pyJoin padded).trans (padRow_despace h)

theorem padRow_zipIdx_map {α : Type} (F : α → Nat → String) (G : α → String) (hF : ∀ a k, IsPadOf (F a k) (G a))
    (l : List α) (k : Nat) : PadRow ((l.zipIdx k).map (fun p => F p.1 p.2)) (l.map G) := by
  induction l generalizing k with
  | nil => exact .nil
  | cons a r ih => exact .cons (hF a k) (ih (k + 1))

theorem aligned_cells_isPad (dts : List String) (ws : List Nat) (cells : List String) :
    PadRow (cells.zipIdx.map (fun p => padFor pyLjust pyRjust dts p.2 p.1 (ws.getD p.2 0))) cells := by
  have := padRow_zipIdx_map (fun s c => padFor pyLjust pyRjust dts c s (ws.getD c 0)) id
    (fun a k => padFor_isPad dts k a _) cells 0
  rwa [List.map_id] at this

/-- an aligned header line shows the header cells: the line `_repr_table` prints for a header row is, modulo spaces, the row -/
theorem header_line_shows (fcols hdrs : List (List String)) (dts : List String) (row : List String) (hr : row ∈ hdrs) :
    ∃ line ∈ ((alignColumnsT pyLjust pyRjust fcols hdrs dts).2).map (pyJoin "  "),
      despace line.toList = despace (row.flatMap (·.toList)) := by
  rw [alignColumnsT_eq]
  refine ⟨pyJoin "  " (row.zipIdx.map (fun p => padFor pyLjust pyRjust dts p.2 p.1 ((colWidths fcols hdrs).getD p.2 0))), ?_, ?_⟩
  · simp only [List.map_map, List.mem_map]
    exact ⟨row, hr, rfl⟩
  · exact line_despace _ _ (aligned_cells_isPad dts (colWidths fcols hdrs) row)

private theorem cell_getD (dts : List String) (c w : Nat) (col : List String) (r : Nat) :
    IsPadOf ((col.map (fun s => padFor pyLjust pyRjust dts c s w)).getD r "") (col.getD r "") := by
  simp only [List.getD_eq_getElem?_getD, List.getElem?_map]
  cases col[r]? with
  | none => exact isPadOf_refl ""
  | some s => exact padFor_isPad dts c s w

theorem body_row_padRow (fcols hdrs : List (List String)) (dts : List String) (r : Nat) :
    PadRow ((alignColumnsT pyLjust pyRjust fcols hdrs dts).1.map (·.getD r "")) (fcols.map (·.getD r "")) := by
  rw [alignColumnsT_eq]
  simp only [List.map_map]
  -- given inline (its type left to unification against `padRow_zipIdx_map`) this costs two orders of magnitude more to elaborate
  have hF : ∀ (a : List String) (k : Nat),
      IsPadOf ((a.map (fun s => padFor pyLjust pyRjust dts k s (colWidth fcols hdrs k))).getD r "") (a.getD r "") :=
    fun a k => cell_getD dts k _ a r
  exact padRow_zipIdx_map _ _ hF fcols 0

/-- alignment never changes the cell texts: body line `r` that `_repr_table` prints (`"  ".join(col[r] for col in aligned_cols)`) is,
    spaces removed, the concatenation of cell `r` of every formatted column in column order — the test of the model's `lineMatches` -/
theorem body_line_shows (fcols hdrs : List (List String)) (dts : List String) (r : Nat) :
    despace (pyJoin "  " ((alignColumnsT pyLjust pyRjust fcols hdrs dts).1.map (·.getD r ""))).toList =
      despace ((fcols.map (·.getD r "")).flatMap (·.toList)) :=
  line_despace _ _ (body_row_padRow fcols hdrs dts r)

/-- `_needs_quote(name)` for a string: quoted iff empty, not an identifier, starting with a digit, parsing as a number, or (lower-cased)
    a reserved name; the checks in the source's order collapse to this disjunction -/
theorem needsQuoteT_eq (isid dig flt : String → Bool) (lw : String → String) (res : List String) (name : String) :
    needsQuoteT isid dig flt lw res name =
      (name == "" || !isid name || dig name || flt name || res.contains (lw name)) := by
  simp only [needsQuoteT, Bool.not_true, Bool.false_eq_true, if_false, Bool.if_true_left, Bool.if_false_right,
    Bool.decide_eq_true, Bool.and_true, Bool.or_assoc]

/-- the empty name is always quoted (it would otherwise print as nothing) -/
theorem needsQuoteT_empty (isid dig flt : String → Bool) (lw : String → String) (res : List String) :
    needsQuoteT isid dig flt lw res "" = true := by
  simp [needsQuoteT_eq]

/-! ### non-vacuity: the translated definitions evaluated on concrete inputs; the hypotheses are satisfiable -/

section Examples

private def cellOf (n : Nat) : Cell :=
  { isNone := false, eqEllipsis := false, isStr := false, num := some .finiteIntegral,
    str := toString n, repr := toString n, g := some (toString n), f1 := some (toString n ++ ".0"), iso := none }

private def colOf (name : String) (k : Kind) (vals : List Nat) : Col :=
  { name := some name, shownName := name, san := some name, lower := name, dtype := some ⟨k, false⟩, cells := vals.map cellOf }

example : setReprRowsT 12 (some 20) = 20 ∧ setReprRowsT 20 none = 12 := by decide
example : tableMaxPreviewT true (some 7) = some 3 ∧ tableMaxPreviewT true none = none ∧ tableMaxPreviewT false (some 7) = none := by decide

/-- 7 ints with the global limit 4: two rows, `...`, two rows, right-aligned to the widest text -/
example : (formatColumnT 4 (fmtShown (some .int)) pyLjust pyRjust ([1, 2, 3, 4, 5, 6, 100].map cellOf) (some ⟨.int, false⟩) none).toOption =
    some ["  1", "  2", "...", "  6", "100"] := by decide +kernel
/-- the per-call `max_preview` wins over the global limit; strings are left-aligned -/
example : (formatColumnT 4 (fmtShown (some .str)) pyLjust pyRjust ([1, 2, 30, 4, 5].map cellOf) (some ⟨.str, false⟩) (some 1)).toOption =
    some ["1  ", "...", "5  "] := by decide +kernel
/-- `n ≤ 2 * max_preview`: every row -/
example : (formatColumnT 4 (fmtShown (some .float)) pyLjust pyRjust ([1, 2, 3, 4].map cellOf) (some ⟨.float, false⟩) none).toOption =
    some ["1.0", "2.0", "3.0", "4.0"] := by decide +kernel
/-- a raising cell makes the column raise -/
example : (formatColumnT 4 (fmtShown (some .date)) pyLjust pyRjust ([1].map cellOf) (some ⟨.date, false⟩) none).toOption = none := by decide +kernel

example : alignColumnsT pyLjust pyRjust [["1", "22"], ["a", "b"]] [["num", "s"], ["[int]", "[str]"]] ["int", "str"] =
    ([["    1", "   22"], ["a    ", "b    "]], [["  num", "s    "], ["[int]", "[str]"]]) := by decide +kernel

example : tableLinesT [["    1", "   22"], ["a    ", "b    "]] [["  num", "s    "]] = ["  num  s    ", "    1  a    ", "   22  b    ", ""] := by
  decide +kernel

/-- three columns with the column limit 1: first, `...`, last; the table's own limit 2 (one head row, one tail row) wins over the global 12 -/
example : (tableFormattedColsT 1 (fun (c : Col) mp => formatColumn (budget 12 mp) c) true (some 2)
    [colOf "a" .int [1, 2, 3], colOf "b" .int [4, 5, 6], colOf "c" .int [7, 8, 9]]).toOption =
    some [["1", "...", "3"], ["...", "...", "..."], ["7", "...", "9"]] := by decide +kernel

example : needsQuoteT (fun s => s != "a b") (fun s => s == "1x") (fun s => s == "inf") id ["cols"] "cols" = true ∧
    needsQuoteT (fun s => s != "a b") (fun s => s == "1x") (fun s => s == "inf") id ["cols"] "price" = false ∧
    needsQuoteT (fun s => s != "a b") (fun s => s == "1x") (fun s => s == "inf") id ["cols"] "a b" = true ∧
    needsQuoteT (fun s => s != "a b") (fun s => s == "1x") (fun s => s == "inf") id ["cols"] "inf" = true := by decide +kernel

/-- the hypothesis of `line_despace` is satisfiable, and the conclusion is what `lineMatches` tests -/
example : PadRow ["  1", "a  "] ["1", "a"] := .cons (pyRjust_isPad "1" 3) (.cons (pyLjust_isPad "a" 3) .nil)
example : lineMatches ["1", "x y"] (pyJoin "  " [pyRjust "1" 3, pyLjust "x y" 5]) = true := by decide +kernel

end Examples

end Serif.Tie
