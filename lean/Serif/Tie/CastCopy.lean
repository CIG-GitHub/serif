/-
  Translation tie for the way `Vector` objects are (re)built (C03, C18): the dtype decision of `Vector.__new__`, the name / data
  bookkeeping of `Vector.__init__`, `Vector.copy`, `__copy__`, `__deepcopy__`, `to_object`, `cast` and the constructor calls of
  `unique`, translated statement by statement from the source (`Serif/Gen/TranslatedCastCopy.lean`, written by
  harness/tr/castcopy.py on every run), are the expression model's `mkVec`, `AVec.copy`, `AVec.copyWith`, `toObject`, `cast`
  (Serif/Model/Expr.lean) — for every vector, every element type `α`, every classification `kindOf : α → Kind` of the non-None
  elements by exact type, and every scalar semantics (the conversion functions of `cast` are parameters).

  A translated method returns the arguments of its constructor call (`Gen.TCC.VectorCall`).  The composition of `__new__` and
  `__init__` in `ccConstruct` is Python's `type.__call__`; it is the one hand-written piece.  `ccConstruct_eq_build` proves it equal
  to the model's reading of a call; after that every method is tied at the level of calls.
  `ccCaster` / `ccStep` are hand copies of the `caster` chain and of the loop body of the generated `castT`, made so that the
  induction can name them; `castT_unfold` proves (by `rfl`) that `castT` *is* the loop over them, so an edit of the source that
  changes either shows up there.
  Not in the source: `Vector.head` / `Vector.tail` do not exist in src/serif/vector.py (nothing to tie).
  Supplementary (see Serif/Tie/Typing.lean).
-/
import Serif.Gen.TranslatedCastCopy
import Serif.Gen.PySupport
import Serif.Model.Expr
import Serif.Props.C03

namespace Serif.Tie
open Serif Serif.X Serif.Gen.TCC

-- the statements below are elaborated with these two as their first implicit arguments: the line stays where it is
variable {α ε : Type}

/-- exact type of a Python value (`none` = None) under a classification of the non-None values -/
def ccTag (kindOf : α → Kind) : Option α → Tag
  | none => .none
  | some a => .ty (kindOf a)

def ccTags (kindOf : α → Kind) (xs : List (Option α)) : List Tag := xs.map (ccTag kindOf)

/-- a stored dtype (`None` or a `DataType`) as a `dtype=` argument / as the content of `_dtype` -/
def ccArg : Option DType → DTypeArg
  | none => .none
  | some d => .dataType d

/-- a `dtype=` argument as the model's `Option DType`: a plain class `T` counts as `DataType(T)` (non-nullable, the default of the
    dataclass field); `newT_pyType` proves that this is what `__new__` does with it -/
def ccStored : DTypeArg → Option DType
  | .none => none
  | .dataType d => some d
  | .pyType k => some { kind := k, nullable := false }

/-- the library's `infer_dtype` seen through exact types (tied to the source by `Tie.inferDtype_eq`, Serif/Tie/Typing.lean) -/
def ccInfer (kindOf : α → Kind) (xs : List (Option α)) : DType := infer (ccTags kindOf xs)

/-- state of a vector object as far as C03 / C18 look: `_underlying`, `_dtype`, `_name` -/
structure CCState (α : Type) where
  underlying : List (Option α)
  dtype : DTypeArg
  name : Option String

/-- the constructor `Vector(values, dtype=…, name=…)`: `__new__` as translated, then — unless it returned a ready Table (`none`)
    — `__init__` as translated with the same arguments on the instance `__new__` made -/
def ccConstruct (infer_dtype : List (Option α) → DType) (isIter isVec allVecs sameLen : Bool) (c : VectorCall (Option α)) :
    Option (CCState α) :=
  match newT infer_dtype isIter isVec allVecs sameLen c.values c.dtype with
  | .table => none
  | .instance d pre =>
    let r := initT pre c.values c.name
    some { underlying := r.2, dtype := d, name := r.1 }

def CCState.abs (kindOf : α → Kind) (s : CCState α) : AVec :=
  { tags := ccTags kindOf s.underlying, dtype := ccStored s.dtype, name := s.name }

/-- the model's reading of a constructor call -/
def ccBuild (kindOf : α → Kind) (c : VectorCall (Option α)) : AVec :=
  mkVec (ccTags kindOf c.values) (ccStored c.dtype) c.name

def ccVec (kindOf : α → Kind) (xs : List (Option α)) (dt : Option DType) (n : Option String) : AVec :=
  { tags := ccTags kindOf xs, dtype := dt, name := n }

/-- result of a translated method that may raise, read by the model (which reports every refusal of `cast` as `other`) -/
def ccRes (kindOf : α → Kind) : Except Err (VectorCall (Option α)) → Res AVec
  | .ok c => .ok (ccBuild kindOf c)
  | .error _ => .error .other

@[simp] theorem ccStored_ccArg (dt : Option DType) : ccStored (ccArg dt) = dt := by cases dt <;> rfl

@[simp] theorem ccTags_nil (kindOf : α → Kind) : ccTags kindOf [] = [] := rfl

@[simp] theorem ccTags_cons (kindOf : α → Kind) (x : Option α) (xs : List (Option α)) :
    ccTags kindOf (x :: xs) = ccTag kindOf x :: ccTags kindOf xs := rfl

@[simp] theorem ccTags_append (kindOf : α → Kind) (xs ys : List (Option α)) :
    ccTags kindOf (xs ++ ys) = ccTags kindOf xs ++ ccTags kindOf ys := by simp [ccTags]

theorem ccTags_isEmpty (kindOf : α → Kind) (xs : List (Option α)) : (ccTags kindOf xs).isEmpty = xs.isEmpty := by
  cases xs <;> rfl

theorem ccTag_eq_none (kindOf : α → Kind) (x : Option α) : (ccTag kindOf x = Tag.none) ↔ x = none := by
  cases x <;> simp [ccTag]

/-- `any(x is None for x in xs)` as translated is the model's `tags.contains .none` -/
theorem ccAnyIsNone_eq (kindOf : α → Kind) (xs : List (Option α)) :
    ((xs.map (fun x => x.isNone)).any (fun b => b)) = (ccTags kindOf xs).contains Tag.none := by
  induction xs with
  | nil => rfl
  | cons x xs ih => cases x <;> simp_all [ccTag]

theorem ccHasItems_eq (isVec : Bool) (xs : List (Option α)) :
    (if isVec then decide (xs.length > 0) else !xs.isEmpty) = !xs.isEmpty := by
  cases isVec <;> cases xs <;> simp

/-- `Vector.__new__` as translated, in closed form; the one place where `newT` is unfolded -/
theorem newT_closed (inf : List (Option α) → DType) (isIter isVec allVecs sameLen : Bool) (xs : List (Option α))
    (dt : DTypeArg) :
    newT inf isIter isVec allVecs sameLen xs dt =
      if (!xs.isEmpty && allVecs && sameLen) = true then .table
      else .instance (ccArg ((ccStored dt).or (if xs.isEmpty then none else some (inf xs))))
        (if isIter then some xs else none) := by
  unfold newT
  simp only [ccHasItems_eq]
  split
  · rfl
  · cases dt <;> cases isIter <;> cases xs.isEmpty <;> rfl

/-- the Table exit: a non-empty `initial` made of vectors of one length never reaches the dtype decision -/
theorem newT_table (inf : List (Option α) → DType) (isIter isVec : Bool) (xs : List (Option α)) (dt : DTypeArg)
    (hx : xs ≠ []) : newT inf isIter isVec true true xs dt = .table := by
  rw [newT_closed, if_pos (by cases xs <;> simp_all)]

/-- a plain Python class passed as `dtype=` is treated exactly like `DataType(cls)`, non-nullable -/
theorem newT_pyType (inf : List (Option α) → DType) (isIter isVec allVecs sameLen : Bool) (xs : List (Option α)) (k : Kind) :
    newT inf isIter isVec allVecs sameLen xs (.pyType k)
      = newT inf isIter isVec allVecs sameLen xs (.dataType { kind := k, nullable := false }) := by
  rw [newT_closed, newT_closed]; rfl

/-- `Vector.__new__` as translated stashes the model's `mkVec` dtype: the explicit dtype when one was given (a plain class as
    its non-nullable `DataType`; nullability is never recomputed from the data), the inferred one when none was given and
    there are elements, `None` for an empty input without dtype; and the materialised data exactly for an iterator.
    Hypothesis: not the Table exit (the elements are not all vectors of one length, or there are none). -/
theorem newT_eq (kindOf : α → Kind) (isIter isVec allVecs sameLen : Bool) (xs : List (Option α)) (dt : DTypeArg)
    (n : Option String) (h : (allVecs && sameLen) = false ∨ xs = []) :
    newT (ccInfer kindOf) isIter isVec allVecs sameLen xs dt
      = .instance (ccArg (mkVec (ccTags kindOf xs) (ccStored dt) n).dtype) (if isIter then some xs else none) := by
  have hc : (!xs.isEmpty && allVecs && sameLen) = false := by
    rcases h with h | h
    · rw [Bool.and_assoc, h]; simp
    · subst h; rfl
  rw [newT_closed, if_neg (by simp [hc])]
  cases ccStored dt <;> simp [mkVec, ccTags_isEmpty, ccInfer]

/-- what lands in `_dtype` is `None` or a `DataType`, never a plain class -/
theorem newT_never_stores_plain_type (inf : List (Option α) → DType) (isIter isVec allVecs sameLen : Bool)
    (xs : List (Option α)) (dt d : DTypeArg) (pre : Option (List (Option α)))
    (h : newT inf isIter isVec allVecs sameLen xs dt = .instance d pre) : ∀ k, d ≠ .pyType k := by
  rw [newT_closed] at h
  split at h
  · cases h
  · cases h
    intro k
    cases (ccStored dt).or (if xs.isEmpty then none else some (inf xs)) <;> simp [ccArg]

/-- `_name` is the argument (None included), `_underlying` the materialised data if `__new__` kept it, else `tuple(initial)` -/
theorem initT_eq (pre : Option (List (Option α))) (xs : List (Option α)) (n : Option String) :
    initT pre xs n = (n, pre.getD xs) := by
  cases n <;> cases pre <;> rfl

/-- **`Vector(values, dtype=…, name=…)` as translated is the model's `mkVec`** on the exact types of the values: data and name
    carried over as given, dtype by `newT_eq` — whether `values` was an iterator or not, a Vector or not -/
theorem ccConstruct_eq_build (kindOf : α → Kind) (isIter isVec allVecs sameLen : Bool) (c : VectorCall (Option α))
    (h : (allVecs && sameLen) = false ∨ c.values = []) :
    (ccConstruct (ccInfer kindOf) isIter isVec allVecs sameLen c).map (CCState.abs kindOf) = some (ccBuild kindOf c) := by
  unfold ccConstruct
  rw [newT_eq kindOf isIter isVec allVecs sameLen c.values c.dtype c.name h]
  simp only [initT_eq, Option.map_some, CCState.abs, ccStored_ccArg, ccBuild]
  cases isIter <;> simp [mkVec]

/-- the object the constructor leaves never holds a plain class in `_dtype` -/
theorem ccConstruct_stores_dataType (inf : List (Option α) → DType) (isIter isVec allVecs sameLen : Bool)
    (c : VectorCall (Option α)) (s : CCState α) (h : ccConstruct inf isIter isVec allVecs sameLen c = some s) :
    ∀ k, s.dtype ≠ .pyType k := by
  unfold ccConstruct at h
  split at h
  · cases h
  · rename_i d pre hn
    simp only [Option.some.injEq] at h
    subst h
    exact newT_never_stores_plain_type inf isIter isVec allVecs sameLen c.values c.dtype d pre hn

/-- built without dtype (`Vector(values, name=…)`, the leaves of the expression language): the model's leaf -/
theorem ccBuild_leaf (kindOf : α → Kind) (xs : List (Option α)) (n : Option String) :
    ccBuild kindOf { values := xs, dtype := .none, name := n } = mkVec (ccTags kindOf xs) none n := rfl

/-- `self.copy()`: data, dtype and name of `self` (the model's `AVec.copy`) -/
theorem copyT_eq (kindOf : α → Kind) (xs : List (Option α)) (dt : Option DType) (n : Option String) :
    ccBuild kindOf (copyT xs (ccArg dt) n none none) = (ccVec kindOf xs dt n).copy := by
  simp [copyT, ccBuild, AVec.copy, AVec.copyWith, ccVec]

/-- `self.copy(new_values)`: the new data, dtype and name of `self` (the model's `AVec.copyWith`; a vector without dtype
    re-infers one from the new values, a typed one keeps its dtype whatever the values) -/
theorem copyT_with_eq (kindOf : α → Kind) (xs ys : List (Option α)) (dt : Option DType) (n : Option String) :
    ccBuild kindOf (copyT xs (ccArg dt) n (some ys) none) = (ccVec kindOf xs dt n).copyWith (ccTags kindOf ys) := by
  simp [copyT, ccBuild, AVec.copyWith, ccVec]

/-- `self.copy(name=m)` / `self.copy(new_values, name=m)`: the name is replaced — by None too (`name=None` clears it, only the
    sentinel `...` keeps it); data and dtype as before -/
theorem copyT_named_eq (kindOf : α → Kind) (xs : List (Option α)) (nv : Option (List (Option α))) (dt : Option DType)
    (n m : Option String) :
    ccBuild kindOf (copyT xs (ccArg dt) n nv (some m)) = mkVec (ccTags kindOf (nv.getD xs)) dt m := by
  cases nv <;> simp [copyT, ccBuild]

theorem copyT_fields (xs : List (Option α)) (d : DTypeArg) (n : Option String) (nv : Option (List (Option α)))
    (nm : Option (Option String)) :
    (copyT xs d n nv nm).values = nv.getD xs ∧ (copyT xs d n nv nm).dtype = d ∧ (copyT xs d n nv nm).name = nm.getD n := by
  cases nv <;> cases nm <;> simp [copyT]

theorem copyDunderT_eq (kindOf : α → Kind) (xs : List (Option α)) (dt : Option DType) (n : Option String) :
    ccBuild kindOf (copyDunderT xs (ccArg dt) n) = (ccVec kindOf xs dt n).copy := by
  unfold copyDunderT; exact copyT_eq kindOf xs dt n

/-- `copy.deepcopy(v)`: hypothesis — `deepcopy` of an element returns a value of the same exact type (None for None) -/
theorem deepcopyT_eq (kindOf : α → Kind) (deepcopy : Option α → Option α)
    (hd : ∀ x, ccTag kindOf (deepcopy x) = ccTag kindOf x)
    (xs : List (Option α)) (dt : Option DType) (n : Option String) :
    ccBuild kindOf (deepcopyT deepcopy xs (ccArg dt) n) = (ccVec kindOf xs dt n).copy := by
  unfold deepcopyT
  rw [copyT_with_eq]
  have : ccTags kindOf (xs.map (fun x => deepcopy x)) = ccTags kindOf xs := by
    simp only [ccTags, List.map_map]
    apply List.map_congr_left
    intro x _
    exact hd x
  rw [this]
  rfl

/-- `v.to_object()`: `DataType(object, nullable=<a None is held>)`, data and name of `self` (the model's `toObject`) -/
theorem toObjectT_eq (kindOf : α → Kind) (xs : List (Option α)) (dt : Option DType) (n : Option String) :
    ccBuild kindOf (toObjectT xs (ccArg dt) n) = toObject (ccVec kindOf xs dt n) := by
  simp only [toObjectT, ccBuild, toObject, ccVec, ccStored, ccAnyIsNone_eq kindOf]

/-- the scalar conversion the `else` branches of the two `caster` closures and the plain `caster = target_type` reach -/
def ccConv (fromisoformat : Kind → α → Except ε (Option α)) (call_target : CastTarget → α → Except ε (Option α))
    (k : Kind) (v : α) : Except ε (Option α) :=
  if k = .date then fromisoformat .date v
  else if k = .datetime then fromisoformat .datetime v
  else call_target (.cls k) v

/-- outcome of a conversion as the model's oracle reports it: the exact type of the value, or a failure -/
def ccSRes (kindOf : α → Kind) : Except ε (Option α) → SRes
  | .ok r => .ok (ccTag kindOf r)
  | .error _ => .err

/-- the model oracle induced by the scalar conversions on the vector `xs` (indexed by position, as the harness builds it) -/
def ccOracle (kindOf : α → Kind) (fromisoformat : Kind → α → Except ε (Option α))
    (call_target : CastTarget → α → Except ε (Option α)) (xs : List (Option α)) : Oracle :=
  { silent with
    cast := fun _ i k _ =>
      match xs[i]? with
      | some (some v) => ccSRes kindOf (ccConv fromisoformat call_target k v)
      | _ => .err }

/-- the scalar operations `cast` uses, as one bundle (the oracle parameters of `castT`, in its order) -/
structure CastOracles (α ε : Type) where
  isinstance : α → Kind → Bool
  method_date : α → Except ε (Option α)
  fromisoformat : Kind → α → Except ε (Option α)
  call_target : CastTarget → α → Except ε (Option α)
  is_vector : α → Bool
  elem_cast : α → CastTarget → Except ε (Option α)

def castTO (O : CastOracles α ε) (inf : List (Option α) → DType) (xs : List (Option α)) (d : DTypeArg) (n : Option String)
    (t : CastTarget) : Except Err (VectorCall (Option α)) :=
  castT O.isinstance O.method_date O.fromisoformat O.call_target O.is_vector O.elem_cast inf xs d n t

/-- what the tie assumes of Python's scalar operations inside `cast(T)` for a class `T` -/
structure CastScalars (kindOf : α → Kind) (O : CastOracles α ε) : Prop where
  /-- `isinstance` on the classes the model knows (Serif/Gen/PySupport.lean) -/
  inst : ∀ v K, O.isinstance v K = Kind.subclass (kindOf v) K
  /-- `datetime.date()` returns a date -/
  date : ∀ v, kindOf v = .datetime → ∃ d, O.method_date v = .ok (some d) ∧ kindOf d = .date
  /-- the elements are scalars (the model's vectors are flat) -/
  flat : ∀ v, O.is_vector v = false

/-- the `caster` closure of `castT` (the same chain, for the proofs) -/
def ccCaster (O : CastOracles α ε) (t : CastTarget) : α → Except ε (Option α) :=
  if (t == CastTarget.cls Kind.date) then
    fun x =>
      if O.isinstance x Kind.datetime then O.method_date x else
      if O.isinstance x Kind.date then .ok (some x) else O.fromisoformat Kind.date x
  else if (t == CastTarget.cls Kind.datetime) then
    fun x => if O.isinstance x Kind.datetime then .ok (some x) else O.fromisoformat Kind.datetime x
  else fun x => O.call_target t x

/-- one element: the closure answers what the model's `castOne` answers, for an oracle `ρ` that reports the scalar conversion -/
theorem ccCaster_castOne (kindOf : α → Kind) (O : CastOracles α ε) (hS : CastScalars kindOf O) (ρ : Oracle) (site i : Nat)
    (k : Kind) (v : α)
    (hρ : ρ.cast site i k (.ty (kindOf v)) = ccSRes kindOf (ccConv O.fromisoformat O.call_target k v)) :
    ccSRes kindOf (ccCaster O (.cls k) v) = castOne ρ site k i (.ty (kindOf v)) := by
  unfold ccCaster castOne
  rw [hρ]
  by_cases hkd : k = .date
  · subst hkd
    simp only [BEq.rfl, if_true, hS.inst, ccConv]
    by_cases hv : kindOf v = .datetime
    · obtain ⟨d, hd, hk⟩ := hS.date v hv
      simp [hv, Kind.subclass, hd, ccSRes, ccTag, hk]
    · by_cases hv2 : kindOf v = .date
      · simp [hv2, Kind.subclass, ccSRes, ccTag]
      · simp [hv, hv2, Kind.subclass]
  · by_cases hkt : k = .datetime
    · subst hkt
      have h1 : (CastTarget.cls Kind.datetime == CastTarget.cls Kind.date) = false := by decide
      simp only [h1, BEq.rfl, if_true, Bool.false_eq_true, if_false, hS.inst, ccConv]
      by_cases hv : kindOf v = .datetime
      · simp [hv, Kind.subclass, ccSRes, ccTag]
      · simp [hv, Kind.subclass]
    · simp [hkd, hkt, ccConv]

/-- the body of the conversion loop, as it stands in `castT` -/
def ccStep (O : CastOracles α ε) (t : CastTarget) (st : List (Option α) × Bool) (ie : Nat × Option α) :
    Except Err (List (Option α) × Bool) :=
  match ie.2 with
  | none => .ok (st.1 ++ [none], true)
  | some elem =>
    match (if O.is_vector elem then O.elem_cast elem t else ccCaster O t elem) with
    | .error _ => .error Err.value
    | .ok converted => .ok (st.1 ++ [converted], st.2)

/-- **the conversion loop**: started anywhere (`out`, `has_none`, position `i`, remaining elements `sfx`), it ends with the
    model's `collect (mapRes (castOne …))` results appended to `out` and `has_none` raised iff a None was met — or raises
    ValueError exactly when the model's `collect` fails -/
theorem ccCastLoop_eq (kindOf : α → Kind) (O : CastOracles α ε) (hS : CastScalars kindOf O) (ρ : Oracle) (site : Nat) (k : Kind) :
    ∀ (sfx : List (Option α)) (i : Nat) (out : List (Option α)) (hn : Bool),
      (∀ j v, sfx[j]? = some (some v) →
        ρ.cast site (i + j) k (.ty (kindOf v)) = ccSRes kindOf (ccConv O.fromisoformat O.call_target k v)) →
      match collect (mapRes (castOne ρ site k) i (ccTags kindOf sfx)) with
      | .ok ts => ∃ ys, forLoop (ccStep O (.cls k)) (out, hn) (enumerateFrom i sfx)
                          = .ok (out ++ ys, hn || (ccTags kindOf sfx).contains Tag.none)
                        ∧ ccTags kindOf ys = ts
      | .error _ => forLoop (ccStep O (.cls k)) (out, hn) (enumerateFrom i sfx) = .error Err.value := by
  intro sfx
  induction sfx with
  | nil =>
    intro i out hn _
    exact ⟨[], by simp [forLoop, enumerateFrom], rfl⟩
  | cons x sfx ih =>
    intro i out hn hρ
    have hρ' : ∀ j v, sfx[j]? = some (some v) →
        ρ.cast site (i + 1 + j) k (.ty (kindOf v)) = ccSRes kindOf (ccConv O.fromisoformat O.call_target k v) := by
      intro j v hj
      have := hρ (j + 1) v (by simpa using hj)
      rw [← this]
      congr 1
      omega
    cases x with
    | none =>
      have ih' := ih (i + 1) (out ++ [none]) true hρ'
      simp only [ccTags_cons, ccTag, mapRes, if_true, collect, enumerateFrom, forLoop, ccStep]
      cases hc : collect (mapRes (castOne ρ site k) (i + 1) (ccTags kindOf sfx)) with
      | error e => rw [hc] at ih'; simpa using ih'
      | ok ts =>
        rw [hc] at ih'
        obtain ⟨ys, h1, h2⟩ := ih'
        refine ⟨none :: ys, ?_, ?_⟩
        · simp only [h1]; simp
        · simp [ccTag, h2]
    | some v =>
      have h0 := hρ 0 v rfl
      have hone := ccCaster_castOne kindOf O hS ρ site i k v (by simpa using h0)
      have hne : (Tag.ty (kindOf v) = Tag.none) = False := by simp
      simp only [ccTags_cons, ccTag, mapRes, hne, if_false, enumerateFrom, forLoop, ccStep, hS.flat]
      -- from here both sides branch on the same result
      rw [← hone]
      cases hcv : ccCaster O (.cls k) v with
      | error e => simp [ccSRes, collect]
      | ok r =>
        have ih' := ih (i + 1) (out ++ [r]) hn hρ'
        simp only [ccSRes, collect, Bool.false_eq_true, if_false]
        cases hc : collect (mapRes (castOne ρ site k) (i + 1) (ccTags kindOf sfx)) with
        | error e => rw [hc] at ih'; simpa using ih'
        | ok ts =>
          rw [hc] at ih'
          obtain ⟨ys, h1, h2⟩ := ih'
          refine ⟨r :: ys, ?_, ?_⟩
          · simp only [h1]
            simp
          · simp [h2]

/-- `castT` is the loop of `ccStep` followed by the dtype decision (unfolding only) -/
theorem castT_unfold (O : CastOracles α ε) (inf : List (Option α) → DType) (xs : List (Option α)) (d : DTypeArg)
    (n : Option String) (t : CastTarget) :
    castTO O inf xs d n t
      = match forLoop (ccStep O t) ([], false) (enumerate xs) with
        | .error e => .error e
        | .ok (out, has_none) =>
          .ok { values := out, name := n,
                dtype := .dataType (match t with
                  | .cls k => { kind := k, nullable := has_none }
                  | .callable _ => inf out) } := by
  unfold castTO castT ccStep ccCaster
  rfl

/-- **`v.cast(T)` for a class `T`, as translated, is the model's `cast`**: every non-None element converted in order, None
    kept, declared kind `T`, nullable iff a None was met, name kept; refused exactly when a conversion fails.
    `ρ` is any model oracle that reports the scalar conversions on this vector (`ccOracle_reports`: there is one). -/
theorem castT_eq (kindOf : α → Kind) (O : CastOracles α ε) (hS : CastScalars kindOf O) (inf : List (Option α) → DType)
    (ρ : Oracle) (site : Nat) (k : Kind) (xs : List (Option α)) (dt : Option DType) (n : Option String)
    (hρ : ∀ i v, xs[i]? = some (some v) →
      ρ.cast site i k (.ty (kindOf v)) = ccSRes kindOf (ccConv O.fromisoformat O.call_target k v)) :
    ccRes kindOf (castTO O inf xs (ccArg dt) n (.cls k)) = cast ρ site k (ccVec kindOf xs dt n) := by
  rw [castT_unfold]
  have h := ccCastLoop_eq kindOf O hS ρ site k xs 0 [] false (by intro j v hj; simpa using hρ j v hj)
  unfold X.cast enumerate
  simp only [ccVec]
  cases hc : collect (mapRes (castOne ρ site k) 0 (ccTags kindOf xs)) with
  | error e =>
    rw [hc] at h
    simp only at h
    rw [h]
    rfl
  | ok ts =>
    rw [hc] at h
    obtain ⟨ys, h1, h2⟩ := h
    rw [h1]
    simp [ccRes, ccBuild, ccStored, h2]

theorem ccForLoop_error {σ β : Type} (body : σ → β → Except Err σ) (hb : ∀ s x e, body s x = .error e → e = .value) :
    ∀ (l : List β) (s : σ) (e : Err), forLoop body s l = .error e → e = .value := by
  intro l
  induction l with
  | nil => intro s e h; cases h
  | cons x l ih =>
    intro s e h
    unfold forLoop at h
    split at h
    · exact ih _ _ h
    · rename_i e2 h2
      cases h
      exact hb _ _ _ h2

theorem ccStep_error (O : CastOracles α ε) (t : CastTarget) (st : List (Option α) × Bool) (ie : Nat × Option α) (e : Err)
    (h : ccStep O t st ie = .error e) : e = .value := by
  unfold ccStep at h
  split at h
  · cases h
  · split at h
    · cases h; rfl
    · cases h

/-- the only exception `cast` raises (class target or callable) is ValueError -/
theorem castT_raises_value (O : CastOracles α ε) (inf : List (Option α) → DType) (xs : List (Option α)) (d : DTypeArg)
    (n : Option String) (t : CastTarget) (e : Err) (h : castTO O inf xs d n t = .error e) : e = .value := by
  rw [castT_unfold] at h
  split at h
  · rename_i e' he
    cases h
    exact ccForLoop_error _ (ccStep_error O t) _ _ _ he
  · cases h

/-- the oracle induced by the scalar conversions reports them (so the hypothesis of `castT_eq` is satisfiable for every vector) -/
theorem ccOracle_reports (kindOf : α → Kind) (O : CastOracles α ε) (site : Nat) (k : Kind) (xs : List (Option α)) (i : Nat)
    (v : α) (h : xs[i]? = some (some v)) :
    (ccOracle kindOf O.fromisoformat O.call_target xs).cast site i k (.ty (kindOf v))
      = ccSRes kindOf (ccConv O.fromisoformat O.call_target k v) := by
  simp [ccOracle, h]

/-- if Python's constructors return instances of their class (`int(x)` an int, `date.fromisoformat(x)` a date, …), the induced
    oracle satisfies the model's `CastSound` -/
theorem ccOracle_castSound (kindOf : α → Kind) (O : CastOracles α ε) (xs : List (Option α))
    (hc : ∀ k v r, ccConv O.fromisoformat O.call_target k v = .ok r → ∃ w, r = some w ∧ kindOf w = k) :
    CastSound (ccOracle kindOf O.fromisoformat O.call_target xs) := by
  intro s i k x t h
  simp only [ccOracle] at h
  split at h
  · rename_i v hv
    cases hr : ccConv O.fromisoformat O.call_target k v with
    | error e => rw [hr] at h; cases h
    | ok r =>
      rw [hr] at h
      obtain ⟨w, hw, hk⟩ := hc k v r hr
      subst hw
      simp only [ccSRes, ccTag, SRes.ok.injEq] at h
      rw [← h, hk]
  · cases h

/-- C03 on the translated `cast`: whatever it returns for a class target is truthful (`C03.cast_truthful` through `castT_eq`) -/
theorem castT_truthful (kindOf : α → Kind) (O : CastOracles α ε) (hS : CastScalars kindOf O) (inf : List (Option α) → DType)
    (hc : ∀ k v r, ccConv O.fromisoformat O.call_target k v = .ok r → ∃ w, r = some w ∧ kindOf w = k)
    (k : Kind) (xs : List (Option α)) (dt : Option DType) (n : Option String) (c : VectorCall (Option α))
    (h : castTO O inf xs (ccArg dt) n (.cls k) = .ok c) : (ccBuild kindOf c).truthful = true := by
  have he := castT_eq kindOf O hS inf (ccOracle kindOf O.fromisoformat O.call_target xs) 0 k xs dt n
    (fun i v hi => ccOracle_reports kindOf O 0 k xs i v hi)
  rw [h] at he
  exact C03.cast_truthful _ (ccOracle_castSound kindOf O xs hc) 0 k _ _ he.symm

/-- C18 on the translated `cast`: the name of `self` is handed to the constructor on every path that returns -/
theorem castT_keeps_name (O : CastOracles α ε) (inf : List (Option α) → DType) (xs : List (Option α)) (d : DTypeArg)
    (n : Option String) (t : CastTarget) (c : VectorCall (Option α)) (h : castTO O inf xs d n t = .ok c) : c.name = n := by
  rw [castT_unfold] at h
  split at h
  · cases h
  · cases h; rfl

/-- `v.unique()`: both paths call `Vector(out)` — no dtype, no name: the model's leaf over the elements kept.  (The model has no
    rule for `unique` — `Op.opaque` — so this ties the constructor call only: the result is judged by truthfulness alone.) -/
theorem uniqueT_eq (kindOf : α → Kind) (out : List (Option α)) :
    ccBuild kindOf (uniqueT out) = mkVec (ccTags kindOf out) none none := rfl

/-- a vector built without `dtype=` is truthful (`C03.leaf_truthful`) -/
theorem ccBuild_inferred_truthful (kindOf : α → Kind) (xs : List (Option α)) (n : Option String) :
    (ccBuild kindOf { values := xs, dtype := .none, name := n }).truthful = true :=
  C03.leaf_truthful _ n

/-- `to_object()` as translated is truthful, whatever the vector held and reported before (`C03.to_object_truthful`) -/
theorem toObjectT_truthful (kindOf : α → Kind) (xs : List (Option α)) (dt : Option DType) (n : Option String) :
    (ccBuild kindOf (toObjectT xs (ccArg dt) n)).truthful = true := by
  rw [toObjectT_eq]
  exact C03.to_object_truthful _

/-- `copy()`, `copy.copy(v)`, `copy.deepcopy(v)` of a truthful vector are truthful (the `copy` clause of `C03.selection_truthful`) -/
theorem copyT_truthful (kindOf : α → Kind) (deepcopy : Option α → Option α)
    (hd : ∀ x, ccTag kindOf (deepcopy x) = ccTag kindOf x) (xs : List (Option α)) (dt : Option DType) (n : Option String)
    (ha : (ccVec kindOf xs dt n).truthful = true) :
    (ccBuild kindOf (copyT xs (ccArg dt) n none none)).truthful = true ∧
    (ccBuild kindOf (copyDunderT xs (ccArg dt) n)).truthful = true ∧
    (ccBuild kindOf (deepcopyT deepcopy xs (ccArg dt) n)).truthful = true := by
  have h := (C03.selection_truthful (ccVec kindOf xs dt n) default default ha [] [] []).1
  rw [copyT_eq, copyDunderT_eq, deepcopyT_eq kindOf deepcopy hd]
  exact ⟨h, h, h⟩

theorem uniqueT_truthful (kindOf : α → Kind) (out : List (Option α)) : (ccBuild kindOf (uniqueT out)).truthful = true :=
  C03.leaf_truthful _ none

/-- the names the translated constructor calls carry are the names the rules prescribe: `copy`, `to_object` keep the name of
    `self` (`nameRule … .copy / .toObject`, cf. `C18.structure_keeps_name`); `copy(name=m)` carries `m`; `unique` drops it -/
theorem ccNames_eq_rule (kindOf : α → Kind) (san : String → Option String) (xs : List (Option α)) (d : DTypeArg)
    (n m : Option String) (nv : Option (List (Option α))) (deepcopy : Option α → Option α) (len : Nat) :
    Names.vec (ccBuild kindOf (copyT xs d n nv none)).name = nameRule san .copy [⟨.vec n, len⟩] ∧
    Names.vec (ccBuild kindOf (copyDunderT xs d n)).name = nameRule san .copy [⟨.vec n, len⟩] ∧
    Names.vec (ccBuild kindOf (deepcopyT deepcopy xs d n)).name = nameRule san .copy [⟨.vec n, len⟩] ∧
    Names.vec (ccBuild kindOf (toObjectT xs d n)).name = nameRule san .toObject [⟨.vec n, len⟩] ∧
    (ccBuild kindOf (copyT xs d n nv (some m))).name = m ∧
    (ccBuild kindOf (uniqueT xs)).name = none := ⟨rfl, rfl, rfl, rfl, rfl, rfl⟩

/-- … and `cast` keeps it (`nameRule … (.cast k site)`) -/
theorem castT_name_eq_rule (kindOf : α → Kind) (san : String → Option String) (O : CastOracles α ε)
    (inf : List (Option α) → DType) (xs : List (Option α)) (d : DTypeArg) (n : Option String) (k : Kind) (site len : Nat)
    (c : VectorCall (Option α)) (h : castTO O inf xs d n (.cls k) = .ok c) :
    Names.vec (ccBuild kindOf c).name = nameRule san (.cast k site) [⟨.vec n, len⟩] :=
  congrArg Names.vec (castT_keeps_name O inf xs d n (.cls k) c h)

section examples
/-- a toy Python: a non-None value is its own class; `str` values parse as ISO dates, nothing else does; `T(x)` always works -/
def ccExIsinstance (v K : Kind) : Bool := Kind.subclass v K
def ccExDate (_ : Kind) : Except Unit (Option Kind) := .ok (some .date)
def ccExIso (K v : Kind) : Except Unit (Option Kind) := if v = .str then .ok (some K) else .error ()
def ccExCall (t : CastTarget) (_ : Kind) : Except Unit (Option Kind) :=
  match t with
  | .cls k => .ok (some k)
  | .callable _ => .ok none
def ccExNoVec (_ : Kind) : Bool := false
def ccExNested (_ : Kind) (_ : CastTarget) : Except Unit (Option Kind) := .error ()
def ccExInfer : List (Option Kind) → DType := ccInfer id

/-- the hypotheses of `castT_eq` / `castT_truthful` are satisfiable -/
def ccExO : CastOracles Kind Unit := ⟨ccExIsinstance, ccExDate, ccExIso, ccExCall, ccExNoVec, ccExNested⟩

theorem ccExScalars : CastScalars (id : Kind → Kind) ccExO :=
  ⟨fun _ _ => rfl, fun _ _ => ⟨.date, rfl, rfl⟩, fun _ => rfl⟩

theorem ccExSound : ∀ k v r, ccConv ccExIso ccExCall k v = .ok r → ∃ w, r = some w ∧ id w = k := by
  intro k v r h
  unfold ccConv ccExIso ccExCall at h
  split at h
  · split at h
    · cases h; exact ⟨_, rfl, by simp_all⟩
    · cases h
  · split at h
    · split at h
      · cases h; exact ⟨_, rfl, by simp_all⟩
      · cases h
    · cases h; exact ⟨_, rfl, rfl⟩

-- `castT_eq` / `castT_truthful` instantiated: in the toy Python, `cast(date)` as translated is the model's `cast` on every vector
example (xs : List (Option Kind)) (dt : Option DType) (n : Option String) :
    ccRes id (castTO ccExO ccExInfer xs (ccArg dt) n (.cls .date))
      = X.cast (ccOracle id ccExO.fromisoformat ccExO.call_target xs) 0 .date (ccVec id xs dt n) :=
  castT_eq id ccExO ccExScalars ccExInfer _ 0 .date xs dt n (fun i v h => ccOracle_reports id ccExO 0 .date xs i v h)
example (k : Kind) (xs : List (Option Kind)) (dt : Option DType) (n : Option String) (c : VectorCall (Option Kind))
    (h : castTO ccExO ccExInfer xs (ccArg dt) n (.cls k) = .ok c) : (ccBuild id c).truthful = true :=
  castT_truthful id ccExO ccExScalars ccExInfer ccExSound k xs dt n c h
-- cast(date): a datetime keeps its calendar day, a date passes, a str is parsed, None is kept and makes the result nullable
example : castT ccExIsinstance ccExDate ccExIso ccExCall ccExNoVec ccExNested ccExInfer
      [some .datetime, none, some .date, some .str] (.dataType ⟨.object, true⟩) (some "a") (.cls .date)
    = .ok { values := [some .date, none, some .date, some .date], dtype := .dataType ⟨.date, true⟩, name := some "a" } := by rfl
-- cast(date) of an int: refused with ValueError, at the first failing element
example : castT ccExIsinstance ccExDate ccExIso ccExCall ccExNoVec ccExNested ccExInfer
      [some .str, some .int, none] .none none (.cls .date) = .error .value := by rfl
-- cast(int): plain constructor calls; no None, so non-nullable
example : castT ccExIsinstance ccExDate ccExIso ccExCall ccExNoVec ccExNested ccExInfer
      [some .str, some .float] (.dataType ⟨.object, false⟩) none (.cls .int)
    = .ok { values := [some .int, some .int], dtype := .dataType ⟨.int, false⟩, name := none } := by rfl
-- cast(<callable>) returning None everywhere: dtype inferred from the results
example : castT ccExIsinstance ccExDate ccExIso ccExCall ccExNoVec ccExNested ccExInfer
      [some .str] .none none (.callable 0)
    = .ok { values := [none], dtype := .dataType (infer [.none]), name := none } := by rfl
-- to_object: nullable iff a None is held
example : toObjectT [some Kind.int, none] (.dataType ⟨.int, true⟩) (some "n")
    = { values := [some .int, none], dtype := .dataType ⟨.object, true⟩, name := some "n" } := by rfl
example : (toObjectT [some Kind.int] (.dataType ⟨.int, true⟩) none).dtype = .dataType ⟨.object, false⟩ := by rfl
-- copy: plain, new values with `name=None`, `name=` alone
example : copyT [some Kind.int] (.dataType ⟨.int, false⟩) (some "a") none none
    = { values := [some .int], dtype := .dataType ⟨.int, false⟩, name := some "a" } := by rfl
example : copyT [some Kind.int] (.dataType ⟨.int, false⟩) (some "a") (some [none]) (some none)
    = { values := [none], dtype := .dataType ⟨.int, false⟩, name := none } := by rfl
example : copyT [some Kind.int] (.dataType ⟨.int, false⟩) (some "a") none (some (some "b"))
    = { values := [some .int], dtype := .dataType ⟨.int, false⟩, name := some "b" } := by rfl
-- the constructor: plain class, DataType, inference, empty input, iterator, Table exit
example : newT ccExInfer false false false false [some .int, none] (.pyType .float)
    = .instance (.dataType ⟨.float, false⟩) none := by rfl
example : newT ccExInfer false false false false [some .int, none] .none
    = .instance (.dataType ⟨.int, true⟩) none := by rfl
example : newT ccExInfer true false false false ([] : List (Option Kind)) .none = .instance .none (some []) := by rfl
example : newT ccExInfer false false true true [some .int] .none = (.table : NewResult (Option Kind)) := by rfl
example : initT (some [some Kind.int]) [] (some "x") = (some "x", [some Kind.int]) := by rfl
example : (ccConstruct ccExInfer false false false false { values := [some .str, none], dtype := .none, name := some "s" }).map
      (CCState.abs id) = some ⟨[.ty .str, .none], some ⟨.str, true⟩, some "s"⟩ := by rfl
end examples

end Serif.Tie
