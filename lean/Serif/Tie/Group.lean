/-
  Translation tie for `Table.aggregate` / `Table.window` (C12, C13): the body of the partition loop and the six built-in
  reducers of each method, translated statement by statement from the source (`Serif/Gen/TranslatedGroup.lean`, regenerated on
  every run by harness/py2lean.py), equal the hand-written model (`Group.addRow`, `Group.sumF` … `Group.varF`) for every input —
  and the model's reducers are what C12 proves equal to the textbook functions over a group's non-None values.

  The reducers are translated over integer cells with exact rational results (Python's `/` on ints is exact up to float rounding;
  the harness compares the exact fraction of the float the code returns); `stdev` is translated without its final `** 0.5`.
  The 1-D branches of `Vector.sum/min/max/mean/stdev` are translated by the same translator and equal the model's `vecReduce`
  (the last clause of C12).  `gather`, `aggregate_col`, `compute_group_values`, `expand_to_rows` and the key columns are tied in
  Serif/Tie/Assemble.lean, the output names in Serif/Tie/Uniquify.lean.
  Supplementary (see Serif/Tie/Typing.lean).
-/
import Serif.Gen.TranslatedGroup
import Serif.Model.Group
import Serif.Proofs.Dict

namespace Serif.Tie
open Serif Serif.Group Serif.Gen.TG

section
variable {K : Type} [DecidableEq K]

/-- look the key up, then store the new bucket — as both methods code the loop body — is the model's single `upsert` -/
private theorem getThenSet_eq (d : Dict K (List Nat)) (k : K) (i : Nat) :
    (match Dict.get? d k with
      | none => Dict.upsert d k (fun _ => [i])
      | some b => Dict.upsert d k (fun _ => b ++ [i])) = addRow d k i := by
  unfold addRow
  cases h : Dict.get? d k
  · exact Dict.upsert_congr d k _ _ (by rw [h])
  · exact Dict.upsert_congr d k _ _ (by rw [h])

theorem partitionStepAgg_eq (d : Dict K (List Nat)) (k : K) (i : Nat) : partitionStepTAgg d k i = addRow d k i :=
  getThenSet_eq d k i

theorem partitionStepWin_eq (d : Dict K (List Nat)) (k : K) (i : Nat) : partitionStepTWin d k i = addRow d k i :=
  getThenSet_eq d k i

/-- the loop `for row_idx in range(nrows)` with a translated body is the model's `partitionFrom` -/
theorem partitionLoop_eq (step : Dict K (List Nat) → K → Nat → Dict K (List Nat)) (hstep : ∀ d k i, step d k i = addRow d k i)
    (keys : List K) (n : Nat) (d : Dict K (List Nat)) :
    (keys.zipIdx n).foldl (fun d p => step d p.1 p.2) d = partitionFrom keys n d := by
  induction keys generalizing n d with
  | nil => rfl
  | cons k ks ih =>
    simp only [List.zipIdx_cons, List.foldl_cons, partitionFrom]
    rw [hstep]
    exact ih (n + 1) _

end

/-! Each coded form of a reducer is tied once, as a fact about an expression over the non-None values `c`; the reducers of the two
methods and of `Vector` are instances. -/

/-- the translator's prelude copies of `min()` / `max()` are the model's -/
private theorem pyMinT_eq (c : List Int) : Gen.TG.pyMin c = Group.pyMin c := by cases c <;> rfl
private theorem pyMaxT_eq (c : List Int) : Gen.TG.pyMax c = Group.pyMax c := by cases c <;> rfl

private theorem count_form (c : List Int) : pySumInt (c.map (fun _ => (1 : Int))) = c.foldl (fun a _ => a + 1) 0 := by
  rw [pySumInt, List.foldl_map]

/-- `min(clean) if clean else None`: the guard only repeats what `min` of no values gives in the model -/
private theorem min_form (c : List Int) : (if (!c.isEmpty) = true then Gen.TG.pyMin c else none) = Group.pyMin c := by
  cases c <;> rfl

private theorem max_form (c : List Int) : (if (!c.isEmpty) = true then Gen.TG.pyMax c else none) = Group.pyMax c := by
  cases c <;> rfl

private theorem mean_form (c : List Int) :
    (if (!c.isEmpty) = true then some (((pySumInt c : Int) : Rat) / ((c.length : Nat) : Rat)) else none)
      = if c.isEmpty = true then none else some ((isum c : Rat) / (c.length : Rat)) := by
  cases c <;> rfl

/-- `sum(g(v) for v in c)` over fractions is the model's accumulating fold -/
private theorem sumRat_map (c : List Int) (g : Int → Rat) :
    pySumRat (c.map g) = c.foldl (fun (acc : Rat) (v : Int) => acc + g v) 0 := by
  rw [pySumRat, List.foldl_map]

/-- `stdev`: the code guards with `n <= 1` over the integers, squares a deviation with a product (`(v - mean) * (v - mean)`) and
    divides by the integer `n - 1`; the model writes the guard over `Nat`, `^ 2`, and `n - 1` over the rationals -/
private theorem var_form (c : List Int) :
    (if decide (((c.length : Nat) : Int) ≤ (1 : Int)) = true then (none : Option Rat)
     else some (pySumRat (c.map (fun v => (((v : Int) : Rat) - (((pySumInt c : Int) : Rat) / ((c.length : Nat) : Rat)))
                                          * (((v : Int) : Rat) - (((pySumInt c : Int) : Rat) / ((c.length : Nat) : Rat)))))
                / (((((c.length : Nat) : Int) - (1 : Int)) : Int) : Rat)))
      = (if c.length ≤ 1 then none
         else some (c.foldl (fun (acc : Rat) (v : Int) => acc + ((v : Rat) - ((isum c : Rat) / (c.length : Rat))) ^ 2) 0
                    / ((c.length : Rat) - 1))) := by
  have hg : (((c.length : Nat) : Int) ≤ 1) = (c.length ≤ 1) := propext (by omega)
  simp only [hg, decide_eq_true_eq, sumRat_map, ← Lean.Grind.Semiring.pow_two, Rat.intCast_sub, Rat.intCast_natCast]
  rfl

theorem sumAgg_eq (vals : List (Option Int)) : sumTAgg vals = sumF vals := rfl
theorem sumWin_eq (vals : List (Option Int)) : sumTWin vals = sumF vals := rfl

theorem countAgg_eq (vals : List (Option Int)) : countTAgg vals = countF vals := count_form _
theorem countWin_eq (vals : List (Option Int)) : countTWin vals = countF vals := count_form _

theorem minAgg_eq (vals : List (Option Int)) : minTAgg vals = minF vals := min_form _
theorem minWin_eq (vals : List (Option Int)) : minTWin vals = minF vals := min_form _
theorem maxAgg_eq (vals : List (Option Int)) : maxTAgg vals = maxF vals := max_form _
theorem maxWin_eq (vals : List (Option Int)) : maxTWin vals = maxF vals := max_form _

theorem meanAgg_eq (vals : List (Option Int)) : meanTAgg vals = meanF vals := mean_form _
theorem meanWin_eq (vals : List (Option Int)) : meanTWin vals = meanF vals := mean_form _

theorem stdevAgg_eq (vals : List (Option Int)) : stdevTAgg vals = varF vals := var_form _
theorem stdevWin_eq (vals : List (Option Int)) : stdevTWin vals = varF vals := var_form _

/-! the 1-D branches of `Vector.sum/min/max/mean/stdev`: the last clause of C12 -/

theorem vectorSum_eq (vals : List (Option Int)) : vecReduce .sum vals = some (some ((vectorSumT vals : Int) : Rat)) := rfl

theorem vectorMin_eq (vals : List (Option Int)) :
    vecReduce .min vals = (vectorMinT vals).map (fun (i : Int) => some (i : Rat)) :=
  congrArg (Option.map fun (i : Int) => some (i : Rat)) (pyMinT_eq _).symm

theorem vectorMax_eq (vals : List (Option Int)) :
    vecReduce .max vals = (vectorMaxT vals).map (fun (i : Int) => some (i : Rat)) :=
  congrArg (Option.map fun (i : Int) => some (i : Rat)) (pyMaxT_eq _).symm

theorem vectorMean_eq (vals : List (Option Int)) : vecReduce .mean vals = some (vectorMeanT vals) :=
  congrArg some (mean_form _).symm

theorem vectorStdev_eq (vals : List (Option Int)) : vecReduce .stdev vals = some (vectorStdevT false vals) := by
  unfold vecReduce vectorStdevT clean
  dsimp only
  generalize vals.filterMap id = c
  have hg : (((c.length : Nat) : Int) < 2) = (c.length < 2) := propext (by omega)
  simp only [hg, decide_eq_true_eq, sumRat_map, Rat.intCast_sub, Rat.intCast_natCast, Rat.intCast_add]
  rfl

/-- non-vacuity: the translated reducers on a group with a None -/
example : sumTAgg [some 3, none, some 4] = 7 ∧ countTWin [some 3, none, some 4] = 2 ∧ minTAgg [none] = none
    ∧ maxTWin [some 3, none, some 4] = some 4 := by decide

end Serif.Tie
