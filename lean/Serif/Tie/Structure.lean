/-
  Translation tie for the structural table operations (C02, and the `rename_columns` clause of C08).

  `Serif/Gen/TranslatedStructure.lean` is written by `harness/tr/structure.py` from the current text of
  `Table.rename_columns`, `Table.T`, `Table.__lshift__`, `Table.__rshift__`, `Table.__iter__`, `Row.__init__` / `set_index` /
  `_underlying` / `__getitem__` / `__iter__` (src/serif/table.py) and of the Table dispatch of `Vector.__new__` and the value
  part of `Vector.__lshift__` (src/serif/vector.py), statement by statement (each Lean step carries the Python statement it
  stands for as a comment).  This file proves the translated functions equal to the hand-written models for every table:

    rename_columns  = Assign.renameColumns (hence renameSim / renameApply)        for all name lists, all raise positions
    T               = Tab.transpose                                                for every rectangular table
    <<              = Tab.appendRows (table operand), Tab.appendRow (one cell per column)
    >>              = Tab.stackCols (Table, Vector, iterable and dict operands)
    iter / Row      = Tab.rows, Tab.row, cell (i, j) of the row view = cell i of column j

  so that C02's `stack_preserves_left`, `stack_rect`, `append_rows_every_column`, `append_row_every_column`,
  `transpose_transpose`, `transpose_rect`, `row_index_eq_columns`, `iter_eq_index` and C08's `rename_columns_atomic`,
  `rename_columns_ok` are theorems about a mechanical translation of what the code says now.  The hypothesis `Rect cols n`
  ("every column has `_length` cells") is the class invariant that `Table.__init__` establishes (Serif/Tie/Tab.lean,
  `tableInit_rect`) and C02 `rect_invariant` maintains.  Supplementary (see Serif/Tie/Typing.lean).
-/
import Serif.Gen.TranslatedStructure
import Serif.Model.Assign
import Serif.Proofs.Tab
import Serif.Tie.Tab
import Serif.Props.C08

namespace Serif.Tie
open Serif Serif.Tab Serif.Assign Serif.Gen.TS

/-- the inner loop (`for col in self._underlying: if col._name == old: col._name = new; break`) renames the first match,
    i.e. is the model's `renameOne`, leaving the names alone when nothing matches -/
theorem renameFirstT_eq (old new : Option Nat) (names : List (Option Nat)) :
    renameFirstT old new names = (renameOne names old new).getD names := by
  induction names with
  | nil => rfl
  | cons x xs ih =>
    rw [renameFirstT, ih, renameOne, renameOne, List.findIdx?_cons]
    cases x == old
    · cases xs.findIdx? (fun y => y == old) <;> rfl
    · rfl

/-- one iteration of the simulation loop is the model's `renameOne` (`simulated.index(old)`, then `simulated[idx] = new`) -/
theorem renameSimStep_eq (simulated : List (Option Nat)) (old new : Option Nat) :
    renameSimStepT simulated (old, new) =
    (match renameOne simulated old new with
      | none => .error Err.key
      | some s => .ok s) := by
  simp only [renameSimStepT, listIndex, renameOne]
  cases simulated.findIdx? (fun y => y == old) <;> rfl

/-- both passes at once, from any pair number `j`, simulated names `s` and current names `cur`: the simulation loop raises exactly
    when the model's `renameSim` does, with the same exception; when it goes through, the apply loop neither raises nor skips -/
theorem renameLoops_eq (raiseAt : Option Nat) (names0 : List (Option Nat)) (j : Nat) (pairs : List (Option Nat × Option Nat))
    (s cur : List (Option Nat)) :
    (match forRaising raiseAt renameSimStepT j pairs s with
      | (some e, _) => (some e, names0)
      | (none, _) => forRaising raiseAt renameApplyStepT j pairs cur) =
    (match renameSim raiseAt j pairs s with
      | .error e => (some e, names0)
      | .ok _ => (none, renameApply pairs cur)) := by
  induction pairs generalizing j s cur with
  | nil => rfl
  | cons p rest ih =>
    obtain ⟨old, new⟩ := p
    rw [forRaising, renameSim, forRaising]
    by_cases hr : raiseAt = some j
    · simp only [hr, ↓reduceIte]
    · simp only [hr, ↓reduceIte, renameSimStep_eq, renameApplyStepT]
      cases h : renameOne s old new with
      | none => rfl
      | some s' =>
        have : renameApply ((old, new) :: rest) cur = renameApply rest (renameFirstT old new cur) := by
          rw [renameFirstT_eq, renameApply]
          cases renameOne cur old new <;> rfl
        rw [this]
        exact ih (j + 1) s' _

/-- **`Table.rename_columns`, translated, is the model's `renameColumns`** — for all lists of old and
    new names, every position at which iterating them may raise, and every list of column names -/
theorem renameColumns_eq (olds news : List (Option Nat)) (raiseAt : Option Nat) (names : List (Option Nat)) :
    renameColumnsT olds news raiseAt names = renameColumns olds news raiseAt names := by
  unfold renameColumnsT renameColumns
  by_cases hl : olds.length = news.length
  · simp only [hl, bne_self_eq_false, Bool.false_eq_true, ↓reduceIte, ne_eq, not_true_eq_false]
    exact renameLoops_eq raiseAt names 0 _ names names
  · simp [hl]

/-- in particular the two passes are the model's `renameSim` and `renameApply` (what `rename_columns_atomic` and
    `rename_columns_ok` of C08 are about): a refused call leaves the names alone, an accepted one applies `renameApply` -/
theorem renameColumns_passes (olds news : List (Option Nat)) (raiseAt : Option Nat) (names : List (Option Nat))
    (hl : olds.length = news.length) :
    renameColumnsT olds news raiseAt names =
      (match renameSim raiseAt 0 (olds.zip news) names with
       | .error e => (some e, names)
       | .ok _ => (none, renameApply (olds.zip news) names)) := by
  rw [renameColumns_eq]
  simp only [renameColumns, hl, ne_eq, not_true_eq_false, ↓reduceIte]
  rfl

/-- C08 `rename_columns_atomic`, read on the translation: a `rename_columns` that raises (length mismatch, a missing old name at
    any position, name lists that raise while being read) leaves every column name as it was -/
theorem renameColumnsT_atomic (olds news : List (Option Nat)) (raiseAt : Option Nat) (names : List (Option Nat)) (e : Err)
    (h : (renameColumnsT olds news raiseAt names).1 = some e) : (renameColumnsT olds news raiseAt names).2 = names := by
  rw [renameColumns_eq] at h ⊢
  exact Serif.C08.rename_columns_atomic olds news raiseAt names e h

/-- C08 `rename_columns_ok`, read on the translation: a successful call applied exactly the sequential first-match renaming -/
theorem renameColumnsT_ok (olds news : List (Option Nat)) (raiseAt : Option Nat) (names names' : List (Option Nat))
    (h : renameColumnsT olds news raiseAt names = (none, names')) :
    olds.length = news.length ∧ renameSpec (olds.zip news) names = some names' := by
  rw [renameColumns_eq] at h
  exact Serif.C08.rename_columns_ok olds news raiseAt names names' h

example : renameColumnsT [some 1, some 2] [some 2, some 3] none [some 1, some 2, some 1] = (none, [some 3, some 2, some 1]) := by decide +kernel
example : renameColumnsT [some 1, some 1] [some 2, some 2] none [some 1, some 2, some 1] = (none, [some 2, some 2, some 2]) := by decide +kernel
example : renameColumnsT [some 1, some 9] [some 2, some 3] none [some 1, some 2] = (some Err.key, [some 1, some 2]) := by decide +kernel
example : renameColumnsT [some 1] [some 2, some 3] none [some 1] = (some Err.value, [some 1]) := by decide +kernel
example : renameColumnsT [some 1, some 2] [some 5, some 6] (some 1) [some 1, some 2] = (some Err.other, [some 1, some 2]) := by decide +kernel
example : renameColumnsT [none] [some 4] none [some 1, none] = (none, [some 1, some 4]) := by decide +kernel

/-- `Table(cols)` for columns of one length `n` (at least one column): the table of these columns with `_length = n` -/
theorem mkTable_rect {α : Type} (cols : List (List α)) (n : Nat) (h : Rect cols n) (hne : cols ≠ []) :
    mkTable cols = .ok { cols := cols, length := n } := by
  unfold mkTable
  rw [tableInitLength_eq]
  cases cols with
  | nil => exact absurd rfl hne
  | cons c cs =>
    have hc : c.length = n := h c List.mem_cons_self
    have hr : rectB (c :: cs) n = true := (rectB_iff _ _).mpr h
    simp [hc, hr]

theorem mkTable_nil {α : Type} : mkTable ([] : List (List α)) = .ok { cols := [], length := 0 } := by
  rfl

/-- a constructed table is rectangular with `_length` rows: `mkTable` refuses everything else -/
theorem mkTable_ok_rect {α : Type} (cols : List (List α)) (t : Tbl α) (h : mkTable cols = .ok t) :
    t.cols = cols ∧ Rect cols t.length := by
  unfold mkTable at h
  cases hl : Serif.Gen.TT.tableInitLengthT (cols.map List.length) with
  | error e => simp [hl] at h
  | ok n =>
    simp only [hl, Except.ok.injEq] at h
    subst h
    exact ⟨rfl, (tableInit_rect cols n hl).1⟩

private theorem mem_distinct (l : List Nat) : ∀ y ∈ distinct l, y ∈ l := by
  induction l with
  | nil => simp [distinct]
  | cons x xs ih =>
    intro y hy
    simp only [distinct, List.mem_cons, List.mem_filter] at hy
    rcases hy with rfl | ⟨hy, _⟩
    · exact List.mem_cons_self
    · exact List.mem_cons_of_mem _ (ih y hy)

/-- `len({len(x) for x in initial}) == 1` holds for a non-empty rectangular list of columns -/
theorem distinct_const (l : List Nat) (n : Nat) (h : ∀ x ∈ l, x = n) (hne : l ≠ []) : (distinct l).length = 1 := by
  cases l with
  | nil => exact absurd rfl hne
  | cons x xs =>
    have hx : x = n := h x List.mem_cons_self
    have : (distinct xs).filter (fun y => y != x) = [] := by
      rw [List.filter_eq_nil_iff]
      intro y hy
      have := h y (List.mem_cons_of_mem _ (mem_distinct xs y hy))
      simp [this, hx]
    simp [distinct, this]

/-- `Vector(cols)` for a non-empty tuple of Vectors of one length is the Table of these columns -/
theorem vectorOfVectors_rect {α : Type} (cols : List (List α)) (n : Nat) (h : Rect cols n) (hne : cols ≠ []) :
    vectorOfVectorsT cols = .ok (some { cols := cols, length := n }) := by
  have h1 := distinct_const _ n (List.forall_mem_map.mpr h) (by simpa using hne)
  simp [vectorOfVectorsT, h1, List.isEmpty_eq_false_iff.mpr hne, mkTable_rect cols n h hne]

/-- whatever Table `Vector(cols)` returns is rectangular and has exactly the given columns -/
theorem vectorOfVectors_ok_rect {α : Type} (cols : List (List α)) (t : Tbl α) (h : vectorOfVectorsT cols = .ok (some t)) :
    t.cols = cols ∧ Rect cols t.length := by
  unfold vectorOfVectorsT at h
  simp only at h
  -- only the branch that calls `Table(initial)` returns a Table
  split at h
  · split at h
    · split at h
      next => cases h
      next t' hm => cases h; exact mkTable_ok_rect cols t hm
    · cases h
  · cases h

/-- `tuple(col[row_idx] for col in self._underlying)` is the model's `row` -/
theorem genRow_eq {α : Type} (cols : List (List α)) (n i : Nat) (h : Rect cols n) (hi : i < n) :
    genE (fun col => getItem col i) cols = .ok (row cols i) := by
  induction cols with
  | nil => rfl
  | cons c cs ih =>
    rw [rect_cons] at h
    have hic : i < c.length := h.1.symm ▸ hi
    have hci : c[i]? = some c[i] := List.getElem?_eq_getElem hic
    have hg : getItem c i = .ok c[i] := by rw [getItem, hci]
    rw [genE, hg, ih h.2]
    simp only [row, List.filterMap_cons, hci]

/-- the row loop of `T` (`rows = []; for row_idx in range(num_rows): …; rows.append(row)`) from any accumulated prefix -/
theorem transposeLoop_eq {α : Type} (cols : List (List α)) (n : Nat) (h : Rect cols n) (l : List Nat) (acc : List (List α))
    (hl : ∀ i ∈ l, i < n) :
    forE (transposeStepT cols) l acc = .ok (acc ++ l.map (row cols)) := by
  induction l generalizing acc with
  | nil => simp [forE]
  | cons i is ih =>
    unfold forE
    simp only [transposeStepT]
    rw [genRow_eq cols n i h (hl i List.mem_cons_self)]
    simp only
    rw [ih _ (fun k hk => hl k (List.mem_cons_of_mem _ hk))]
    simp

/-- **`Table.T` of a 2-D table, translated, is the model's `transpose`**: for every rectangular table
    (`n` rows) the result is the Table whose columns are the rows; its `_length` is the former width (0 when there was no row,
    in which case the result has no column at all) -/
theorem tableT_eq {α : Type} (cols : List (List α)) (n : Nat) (h : Rect cols n) (higher : Except Err (Tbl α)) :
    transposeT 2 cols n higher =
      .ok { cols := transpose cols n, length := if n = 0 then 0 else cols.length } := by
  unfold transposeT
  simp only [beq_self_eq_true, ↓reduceIte]
  rw [transposeLoop_eq cols n h (List.range n) [] (by simp)]
  simp only [List.nil_append]
  by_cases hn : n = 0
  · subst hn
    simp [transpose, rows, mkTable_nil]
  · have hne : rows cols n ≠ [] := by
      intro he
      apply hn
      rw [← rows_length cols n, he]
      rfl
    simp only [hn, ↓reduceIte, transpose]
    exact mkTable_rect (rows cols n) cols.length (rows_rect cols n h) hne

/-- C02 `transpose_transpose`, read on the translation: `t.T.T` has the columns and the `_length` of `t` -- for a table with at
    least one row and one column (the translated `T` of a table without rows is the table without columns: `rows = []`,
    `Table([])`, so its columns are not recovered; the model's `transpose` is given the width explicitly) -/
theorem tableT_twice {α : Type} (cols : List (List α)) (n : Nat) (h : Rect cols n) (hn : n ≠ 0) (hne : cols ≠ [])
    (higher : Except Err (Tbl α)) :
    (match transposeT 2 cols n higher with
      | .ok t => transposeT 2 t.cols t.length higher
      | .error e => .error e) = .ok { cols := cols, length := n } := by
  rw [tableT_eq cols n h higher]
  have hl : cols.length ≠ 0 := by simpa using hne
  simp only [hn, ↓reduceIte]
  rw [tableT_eq (transpose cols n) cols.length (rows_rect cols n h) higher, transpose_transpose_cols cols n h]
  simp [hl, transpose, rows_length]

/-- the other branch is the parameter (tables of tables: outside C02) -/
theorem tableT_higher {α : Type} (k : Nat) (hk : k ≠ 2) (cols : List (List α)) (n : Nat) (higher : Except Err (Tbl α)) :
    transposeT k cols n higher = higher := by
  simp [transposeT, hk]

/-- a ragged "table" is not silently transposed: the translated `T` raises IndexError where the model drops cells
    (so `Rect` is needed in `tableT_eq`, and it is what the class invariant provides) -/
example : transposeT 2 [[1, 2], [3]] 2 (.error Err.other) = .error Err.index := by decide +kernel
example : transposeT 2 [[1, 2, 3], [4, 5, 6]] 3 (.error Err.other) = .ok { cols := [[1, 4], [2, 5], [3, 6]], length := 2 } := by decide +kernel
example : transposeT 2 [[], []] 0 (.error Err.other) = .ok { cols := ([] : List (List Nat)), length := 0 } := by decide +kernel
example : Rect [[1, 2, 3], [4, 5, 6]] 3 := (rectB_iff _ _).mp rfl
example : vectorOfVectorsT [[1, 2], [3, 4]] = .ok (some { cols := [[1, 2], [3, 4]], length := 2 }) := by decide +kernel
example : vectorOfVectorsT [[1, 2], [3]] = .ok none := by decide +kernel
example : vectorOfVectorsT ([] : List (List Nat)) = .ok none := by decide +kernel

theorem genE_ok_map {α β : Type} (f : α → Except Err β) (g : α → β) (l : List α) (h : ∀ x ∈ l, f x = .ok (g x)) :
    genE f l = .ok (l.map g) := by
  induction l with
  | nil => rfl
  | cons x xs ih =>
    unfold genE
    rw [h x List.mem_cons_self, ih (fun y hy => h y (List.mem_cons_of_mem _ hy))]
    rfl

/-- the cells the right operand of `column << other` contributes -/
def _root_.Serif.Gen.TS.VOther.cells {α : Type} : VOther α → List α
  | .vector data _ => data
  | .iterable items => items
  | .scalar x => [x]

/-- `column << other` never yields anything but the column's cells followed by the operand's cells … -/
theorem vecLshift_ok {α : Type} (x : List α) (d : Option DType) (o : VOther α) (r : List α) (h : vecLshiftT x d o = .ok r) :
    r = x ++ o.cells := by
  cases o with
  | vector data schema =>
    rw [vecLshiftT] at h
    split at h <;> cases h
    rfl
  | iterable items => cases h; rfl
  | scalar v => cases h; rfl

/-- … and it does yield them unless both sides are typed, non-nullable and of different kinds (SerifTypeError) -/
theorem vecLshift_eq {α : Type} (x : List α) (d : Option DType) (o : VOther α)
    (hsafe : ∀ data sd os, o = .vector data (some os) → d = some sd → (sd.nullable || os.nullable || sd.kind == os.kind) = true) :
    vecLshiftT x d o = .ok (x ++ o.cells) := by
  cases o with
  | vector data schema =>
    -- the test of the refusal is the negation of the condition in `hsafe`
    have hm : vecLshiftMismatchT d schema = false := by
      cases d with
      | none => rfl
      | some sd => cases schema with
        | none => rfl
        | some os =>
          rw [vecLshiftMismatchT, bne, ← Bool.not_or, ← Bool.not_or, hsafe data sd os rfl rfl]
          rfl
    rw [vecLshiftT, hm]
    rfl
  | iterable items => rfl
  | scalar v => rfl

example : vecLshiftT [1, 2] (some ⟨Kind.int, false⟩) (.vector [3] (some ⟨Kind.str, false⟩)) = .error Err.type := by decide +kernel
example : vecLshiftT [1, 2] (some ⟨Kind.int, false⟩) (.vector [3] (some ⟨Kind.str, true⟩)) = .ok [1, 2, 3] := by decide +kernel

theorem zipStrict_eq {α β : Type} (a : List α) (b : List β) (hw : a.length = b.length) : zipStrict a b = .ok (a.zip b) := by
  simp [zipStrict, hw]

/-- `tuple(x << y for x, y in zip(cols, ys))` when `x << y` appends the cells `g y` to `x`: the model's `appendRows` -/
theorem genShift_eq {α γ : Type} (f : List α → γ → Except Err (List α)) (g : γ → List α)
    (hf : ∀ x y, f x y = .ok (x ++ g y)) (a : List (List α)) (ys : List γ) :
    genE (fun (p : List α × γ) => f p.1 p.2) (a.zip ys) = .ok (appendRows a (ys.map g)) := by
  rw [genE_ok_map _ (fun p => p.1 ++ g p.2) _ (fun p _ => hf p.1 p.2), appendRows_eq_zipWith, List.zipWith_map_right,
    List.map_zip_eq_zipWith]
  rfl

/-- **`table << other_table`, translated**: when the column-wise `x << y` is concatenation of cells
    (`vecLshift_eq`), the new columns handed to `Vector(...)` are the model's `appendRows` -/
theorem lshift_table_eq {α β : Type} (shiftCol : List α → List α → Except Err (List α)) (shiftItem : List α → β → Except Err (List α))
    (hshift : ∀ x y, shiftCol x y = .ok (x ++ y)) (a b : List (List α)) (hw : a.length = b.length) :
    lshiftT shiftCol shiftItem a (.table b) = vectorOfVectorsT (appendRows a b) := by
  simp only [lshiftT, hw, bne_self_eq_false, Bool.false_eq_true, ↓reduceIte, zipStrict_eq _ _ hw,
    genShift_eq shiftCol id hshift, List.map_id]

theorem vectorOfVectors_appendRows {α : Type} (a b : List (List α)) (n m : Nat) (ha : Rect a n) (hb : Rect b m)
    (hw : a.length = b.length) (hne : a ≠ []) :
    vectorOfVectorsT (appendRows a b) = .ok (some { cols := appendRows a b, length := n + m }) := by
  have hne' : appendRows a b ≠ [] := by
    intro he
    apply hne
    apply List.length_eq_zero_iff.mp
    rw [← appendRows_length a b hw, he]
    rfl
  exact vectorOfVectors_rect _ _ (appendRows_rect a b n m ha hb) hne'

/-- … so for rectangular operands of one width (at least one column) the result is the Table with columns `appendRows a b`
    and `_length = n + m` -/
theorem lshift_table_rect {α β : Type} (shiftCol : List α → List α → Except Err (List α)) (shiftItem : List α → β → Except Err (List α))
    (hshift : ∀ x y, shiftCol x y = .ok (x ++ y)) (a b : List (List α)) (n m : Nat) (ha : Rect a n) (hb : Rect b m)
    (hw : a.length = b.length) (hne : a ≠ []) :
    lshiftT shiftCol shiftItem a (.table b) = .ok (some { cols := appendRows a b, length := n + m }) := by
  rw [lshift_table_eq shiftCol shiftItem hshift a b hw, vectorOfVectors_appendRows a b n m ha hb hw hne]

/-- a different number of columns is refused (ValueError) -/
theorem lshift_table_width {α β : Type} (shiftCol : List α → List α → Except Err (List α)) (shiftItem : List α → β → Except Err (List α))
    (a b : List (List α)) (hw : a.length ≠ b.length) :
    lshiftT shiftCol shiftItem a (.table b) = .error Err.value := by
  have : (a.length != b.length) = true := by simpa using hw
  simp [lshiftT, this]

/-- **`table << [v0, v1, …]`, translated**: one cell per column, the model's `appendRow` -/
theorem lshift_items_eq {α : Type} (shiftCol : List α → List α → Except Err (List α)) (shiftItem : List α → α → Except Err (List α))
    (hshift : ∀ x v, shiftItem x v = .ok (x ++ [v])) (a : List (List α)) (vals : List α) (hw : a.length = vals.length) :
    lshiftT shiftCol shiftItem a (.items vals) = vectorOfVectorsT (appendRow a vals) := by
  simp only [lshiftT, hw, bne_self_eq_false, Bool.false_eq_true, ↓reduceIte, zipStrict_eq _ _ hw,
    genShift_eq shiftItem (fun v => [v]) hshift, appendRow]

theorem lshift_items_rect {α : Type} (shiftCol : List α → List α → Except Err (List α)) (shiftItem : List α → α → Except Err (List α))
    (hshift : ∀ x v, shiftItem x v = .ok (x ++ [v])) (a : List (List α)) (vals : List α) (n : Nat) (ha : Rect a n)
    (hw : a.length = vals.length) (hne : a ≠ []) :
    lshiftT shiftCol shiftItem a (.items vals) = .ok (some { cols := appendRow a vals, length := n + 1 }) := by
  rw [lshift_items_eq shiftCol shiftItem hshift a vals hw]
  have hw' : a.length = (vals.map (fun v => [v])).length := by
    rw [List.length_map]
    exact hw
  exact vectorOfVectors_appendRows a _ n 1 ha (rect_singletons vals) hw' hne

theorem lshift_items_width {α β : Type} (shiftCol : List α → List α → Except Err (List α)) (shiftItem : List α → β → Except Err (List α))
    (a : List (List α)) (vals : List β) (hw : a.length ≠ vals.length) :
    lshiftT shiftCol shiftItem a (.items vals) = .error Err.value := by
  have : (a.length != vals.length) = true := by simpa using hw
  simp [lshiftT, this]

/-- the hypotheses on `x << y` are met by the translated `Vector.__lshift__` (untyped columns; for typed ones `vecLshift_eq`) -/
example : ∀ x y : List Nat, (fun x y => vecLshiftT x none (.vector y none)) x y = .ok (x ++ y) := fun _ _ => rfl
example : ∀ (x : List Nat) (v : Nat), (fun x v => vecLshiftT x none (.scalar v)) x v = .ok (x ++ [v]) := fun _ _ => rfl
example : lshiftT (fun x y => vecLshiftT x none (.vector y none)) (fun x (v : Nat) => vecLshiftT x none (.scalar v))
    [[1, 2], [3, 4]] (.table [[5], [6]]) = .ok (some { cols := [[1, 2, 5], [3, 4, 6]], length := 3 }) := by decide +kernel
example : lshiftT (fun x y => vecLshiftT x none (.vector y none)) (fun x (v : Nat) => vecLshiftT x none (.scalar v))
    [[1, 2], [3, 4]] (.items [9, 8]) = .ok (some { cols := [[1, 2, 9], [3, 4, 8]], length := 3 }) := by decide +kernel
example : lshiftT (fun x y => vecLshiftT x none (.vector y none)) (fun x (v : Nat) => vecLshiftT x none (.scalar v))
    [[1, 2], [3, 4]] (.items [9]) = .error Err.value := by decide +kernel

/-- the cells a dict value contributes (`none`: a scalar, refused) -/
def _root_.Serif.Gen.TS.DictVal.cells? {α : Type} : DictVal α → Option (List α)
  | .vector data => some data
  | .iterable data => some data
  | .scalar => none

theorem rshiftDictStep_eq {α : Type} (cols : List (List α)) (n : Nat) (acc : List (List α)) (it : Name × DictVal α) :
    rshiftDictStepT cols n acc it = (match it.2.cells? with
      | none => .error Err.value
      | some col => if !cols.isEmpty && col.length != n then .error Err.value else .ok (acc ++ [col])) := by
  obtain ⟨nm, v⟩ := it
  cases v <;> rfl

/-- the dict loop (`named_cols = []; for col_name, values in other.items(): …; named_cols.append(col)`) from any prefix:
    values that are vectors / iterables -- of the table's length when the table has a column, of any length when it has
    none (`if self._underlying and …`) -- are appended in order -/
theorem rshiftDictLoop_eq {α : Type} (cols : List (List α)) (n : Nat) (items : List (Name × DictVal α)) (ds acc : List (List α))
    (hds : items.map (fun it => it.2.cells?) = ds.map some) (hlen : cols ≠ [] → Rect ds n) :
    forE (rshiftDictStepT cols n) items acc = .ok (acc ++ ds) := by
  induction items generalizing ds acc with
  | nil =>
    cases ds with
    | nil => simp [forE]
    | cons _ _ => simp at hds
  | cons it rest ih =>
    cases ds with
    | nil => simp at hds
    | cons d ds' =>
      simp only [List.map_cons, List.cons.injEq] at hds
      have hg : (!cols.isEmpty && d.length != n) = false := by
        cases cols with
        | nil => rfl
        | cons c cs => simp [hlen (by simp) d List.mem_cons_self]
      rw [forE, rshiftDictStep_eq, hds.1]
      simp only [hg, Bool.false_eq_true, ↓reduceIte]
      rw [ih ds' (acc ++ [d]) hds.2 (fun hc => (rect_cons.mp (hlen hc)).2), List.append_assoc]
      rfl

/-- the dict form as a whole: the loop, then `Table(tuple(self._underlying) + tuple(named_cols))`, which sets `_length` (`m`) anew -/
theorem rshift_dict_rect {α : Type} (cols : List (List α)) (n m : Nat) (dt : Option DType) (sb : Except Err Bool)
    (items : List (Name × DictVal α)) (ds : List (List α))
    (hds : items.map (fun it => it.2.cells?) = ds.map some) (hlen : cols ≠ [] → Rect ds n)
    (hr : Rect (cols ++ ds) m) (hne : cols ++ ds ≠ []) :
    rshiftT cols n dt sb (.dict items) = .ok (some { cols := stackCols cols ds, length := m }) := by
  simp only [rshiftT]
  rw [rshiftDictLoop_eq cols n items ds [] hds hlen]
  simp only [List.nil_append]
  rw [mkTable_rect (cols ++ ds) m hr hne]
  rfl

/-- **`table >> {name: values, …}`, translated, is the model's `stackCols`** -/
theorem rshift_dict_eq {α : Type} (cols : List (List α)) (n : Nat) (dt : Option DType) (sb : Except Err Bool)
    (items : List (Name × DictVal α)) (ds : List (List α))
    (hds : items.map (fun it => it.2.cells?) = ds.map some) (hlen : Rect ds n) (h : Rect cols n) (hne : cols ≠ []) :
    rshiftT cols n dt sb (.dict items) = .ok (some { cols := stackCols cols ds, length := n }) :=
  rshift_dict_rect cols n n dt sb items ds hds (fun _ => hlen) (rect_append.mpr ⟨h, hlen⟩)
    (List.append_ne_nil_of_left_ne_nil hne _)

/-- on a table without columns the length test is skipped (`if self._underlying and …`): the values only have to agree with
    each other (`Table(...)` checks that), whatever `_length` says -/
theorem rshift_dict_empty {α : Type} (n m : Nat) (dt : Option DType) (sb : Except Err Bool)
    (items : List (Name × DictVal α)) (ds : List (List α))
    (hds : items.map (fun it => it.2.cells?) = ds.map some) (hlen : Rect ds m) (hne : ds ≠ []) :
    rshiftT [] n dt sb (.dict items) = .ok (some { cols := stackCols [] ds, length := m }) :=
  rshift_dict_rect [] n m dt sb items ds hds (fun h => absurd rfl h) hlen hne

/-- a value of another length, and a scalar value, are refused (ValueError) when the table has a column -/
theorem rshift_dict_refuses {α : Type} (cols : List (List α)) (n : Nat) (dt : Option DType) (sb : Except Err Bool)
    (nm : Name) (v : DictVal α) (rest : List (Name × DictVal α)) (hne : cols ≠ [])
    (hbad : ∀ d, v.cells? = some d → d.length ≠ n) :
    rshiftT cols n dt sb (.dict ((nm, v) :: rest)) = .error Err.value := by
  rw [rshiftT, forE, rshiftDictStep_eq]
  cases h : v.cells? with
  | none => rfl
  | some d =>
    have hg : (!cols.isEmpty && d.length != n) = true := by
      rw [List.isEmpty_eq_false_iff.mpr hne, bne_iff_ne.mpr (hbad d h)]
      rfl
    simp only [hg, ↓reduceIte]

/-- **`table >> other_table`, translated, is the model's `stackCols`**: a Table's `_dtype` is None
    (`Table.__init__`: `self._dtype = None`), so the type-safety refusal does not apply and the translation is
    `Vector(self.cols() + other.cols())` as it stands -/
theorem rshift_table_rect {α : Type} (a b : List (List α)) (n : Nat) (sb : Except Err Bool) (schema : Option DType)
    (ha : Rect a n) (hb : Rect b n) (hne : a ≠ []) :
    rshiftT a n tableDtypeT sb (.table b schema) = .ok (some { cols := stackCols a b, length := n }) :=
  vectorOfVectors_rect _ n (rect_append.mpr ⟨ha, hb⟩) (List.append_ne_nil_of_left_ne_nil hne _)

/-- with a `_dtype` the refusal is exactly the documented one -/
theorem rshift_table_typed {α : Type} (a b : List (List α)) (n : Nat) (sb : Except Err Bool) (sd os : DType) :
    rshiftT a n (some sd) sb (.table b (some os)) =
      if !sd.nullable && !os.nullable && sd.kind != os.kind then .error Err.type else vectorOfVectorsT (stackCols a b) := by
  simp only [rshiftT, stackCols, rshiftMismatchT]
  rfl

/-- **`table >> vector` and `table >> iterable`**: one more column, the model's `stackCols a [v]` -/
theorem rshift_vector_eq {α : Type} (a : List (List α)) (v : List α) (n : Nat) (dt : Option DType) (sb : Except Err Bool) :
    rshiftT a n dt sb (.vector v) = vectorOfVectorsT (stackCols a [v]) ∧
    rshiftT a n dt sb (.iterable v) = vectorOfVectorsT (stackCols a [v]) :=
  ⟨rfl, rfl⟩

theorem rshift_vector_rect {α : Type} (a : List (List α)) (v : List α) (n : Nat) (dt : Option DType) (sb : Except Err Bool)
    (ha : Rect a n) (hv : v.length = n) :
    rshiftT a n dt sb (.vector v) = .ok (some { cols := stackCols a [v], length := n }) ∧
    rshiftT a n dt sb (.iterable v) = .ok (some { cols := stackCols a [v], length := n }) :=
  have h := vectorOfVectors_rect (stackCols a [v]) n (rect_append.mpr ⟨ha, rect_cons.mpr ⟨hv, fun _ h => nomatch h⟩⟩)
    (List.append_ne_nil_of_right_ne_nil _ (List.cons_ne_nil _ _))
  ⟨h, h⟩

/-- whatever Table `>>` returns (any operand form) is rectangular and keeps the left columns in front
    (`stack_preserves_left` applies to it) -/
theorem rshift_ok_left {α : Type} (a : List (List α)) (n : Nat) (dt : Option DType) (sb : Except Err Bool) (o : ROther α) (t : Tbl α)
    (h : rshiftT a n dt sb o = .ok (some t)) : Rect t.cols t.length ∧ t.cols.take a.length = a := by
  -- every form that returns a Table builds it from `a ++ b`, by `Table(…)` or by `Vector(…)`
  have key : ∀ b, t.cols = a ++ b ∧ Rect (a ++ b) t.length → Rect t.cols t.length ∧ t.cols.take a.length = a := by
    intro b ⟨h1, h2⟩
    rw [h1]
    exact ⟨h2, List.take_left⟩
  cases o with
  | dict items =>
    simp only [rshiftT] at h
    split at h
    next => cases h
    next named _ =>
      split at h
      next => cases h
      next t' hm => cases h; exact key named (mkTable_ok_rect _ t hm)
  | table b schema =>
    simp only [rshiftT] at h
    split at h
    · cases h
    · exact key b (vectorOfVectors_ok_rect _ t h)
  | vector v => exact key [v] (vectorOfVectors_ok_rect _ t h)
  | iterable v => exact key [v] (vectorOfVectors_ok_rect _ t h)
  | scalar x =>
    simp only [rshiftT] at h
    split at h
    · cases h
    · split at h <;> cases h

example : rshiftT [[1, 2], [3, 4]] 2 none (.error Err.type) (.table [[5, 6]] none)
    = .ok (some { cols := [[1, 2], [3, 4], [5, 6]], length := 2 }) := by decide +kernel
example : rshiftT [[1, 2], [3, 4]] 2 none (.error Err.type) (.dict [(some 7, .iterable [5, 6]), (none, .vector [7, 8])])
    = .ok (some { cols := [[1, 2], [3, 4], [5, 6], [7, 8]], length := 2 }) := by decide +kernel
example : rshiftT [[1, 2], [3, 4]] 2 none (.error Err.type) (.dict [(some 7, .iterable [5, 6, 7])]) = .error Err.value := by decide +kernel
example : rshiftT [[1, 2], [3, 4]] 2 none (.error Err.type) (.dict [(some 7, (.scalar : DictVal Nat))]) = .error Err.value := by decide +kernel
/-- `t >> Vector(wrong length)`: a warning and a nested Vector, not a Table (outside C02, see DESIGN) -/
example : rshiftT [[1, 2], [3, 4]] 2 none (.error Err.type) (.vector [5]) = .ok none := by decide +kernel
example : rshiftT ([] : List (List Nat)) 0 none (.error Err.type) (.dict [(some 7, .iterable [5, 6, 7])])
    = .ok (some { cols := [[5, 6, 7]], length := 3 }) := by decide +kernel
example : rshiftT [[1, 2]] 2 none (.error Err.type) (.scalar 5) = .error Err.type := by decide +kernel
example : rshiftT ([] : List (List Nat)) 0 none (.ok false) (.scalar 5) = .ok none := by decide +kernel

/-- the materialised row view (`tuple(row)`, what every inherited Vector method of a `Row` sees) is the model's `row` -/
theorem rowUnderlying_eq {α : Type} (cols : List (List α)) (n i : Nat) (h : Rect cols n) (hi : i < n) :
    rowUnderlyingT (rowInitT cols) i = .ok (row cols i) := genRow_eq cols n i h hi

/-- unpacking a row (`x, y, z = row`) gives the same cells -/
theorem rowIter_eq {α : Type} (cols : List (List α)) (n i : Nat) (h : Rect cols n) (hi : i < n) :
    rowIterT (rowInitT cols) i = .ok (row cols i) := genRow_eq cols n i h hi

/-- **`row[j]` is cell `i` of column `j`** (`row_index_eq_columns`): the translated `Row.__getitem__` reads exactly the cell
    the model's `row` has at position `j`, and raises IndexError exactly beyond the last column -/
theorem rowGetItem_eq {α : Type} (cols : List (List α)) (n i j : Nat) (h : Rect cols n) (hi : i < n) :
    (match rowGetItemT (rowInitT cols) i j with
      | .ok v => some v
      | .error _ => none) = (row cols i)[j]? ∧
    (j < cols.length → rowGetItemT (rowInitT cols) i j = (match (cols[j]?).bind (·[i]?) with
      | some v => .ok v
      | none => .error Err.index)) ∧
    (cols.length ≤ j → rowGetItemT (rowInitT cols) i j = .error Err.index) := by
  rw [row_getElem? cols n i h hi j]
  simp only [rowGetItemT, rowInitT, getItem]
  rcases Nat.lt_or_ge j cols.length with hj | hj
  · have hij : i < (cols[j]).length := by
      rw [h _ (List.getElem_mem hj)]
      exact hi
    have hci : (cols[j])[i]? = some (cols[j])[i] := List.getElem?_eq_getElem hij
    rw [List.getElem?_eq_getElem hj]
    dsimp only [Option.bind_some]
    rw [hci]
    exact ⟨rfl, fun _ => rfl, fun hge => absurd hj (Nat.not_lt.mpr hge)⟩
  · rw [List.getElem?_eq_none hj]
    exact ⟨rfl, fun hlt => absurd hlt (Nat.not_lt.mpr hj), fun _ => rfl⟩

/-- **iterating a table, translated, yields the model's `rows`** (`iter_eq_index`, `shape`) -/
theorem tableIter_eq {α : Type} (cols : List (List α)) (n : Nat) (h : Rect cols n) :
    tableIterT cols n = .ok (rows cols n) := by
  unfold tableIterT rows
  exact genE_ok_map _ (row cols) _ (fun i hi => rowUnderlying_eq cols n i h (List.mem_range.mp hi))

example : tableIterT [[1, 2, 3], [4, 5, 6]] 3 = .ok [[1, 4], [2, 5], [3, 6]] := by decide +kernel
example : rowGetItemT (rowInitT [[1, 2, 3], [4, 5, 6]]) 2 1 = .ok 6 := by decide +kernel
example : rowGetItemT (rowInitT [[1, 2, 3], [4, 5, 6]]) 2 2 = .error Err.index := by decide +kernel
example : rowIterT (rowInitT [[1, 2, 3], [4, 5, 6]]) 1 = .ok [2, 5] := by decide +kernel
example : tableIterT ([] : List (List Nat)) 0 = .ok [] := by decide +kernel

end Serif.Tie
