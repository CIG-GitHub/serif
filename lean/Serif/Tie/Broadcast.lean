/-
  Translation tie for attribute broadcasting (C05): `Vector.__getattr__`, `MethodProxy`, one representative of each shape of the
  explicit per-element wrappers of `_String` / `_Date` (the translator compares every wrapper with its representative), the
  subclass dispatch of `Vector.__new__` and the names ordinary lookup answers, translated statement by statement
  (`Serif/Gen/TranslatedBroadcast.lean`).  The model has one function for all of this, `broadcast f xs`: it takes the per-element
  function `f` as given and does not say how the code gets to it.  The additional definitions `attrAnswer` / `callAnswer` state that
  path on the model's `Vec`, and the translated functions are proved equal to them for every vector, name, classification of the
  name on the dtype's class and element method / property (all parameters; the last two may raise).  A translated function returns
  the arguments of its constructor call `Vector(values)` (`dtype = none`: no `dtype=`, inferred by `Vector.__new__`; the model does
  not carry the dtype of a broadcast result, C03/C04 own inference).  Supplementary (see Serif/Tie/Typing.lean).
-/
import Serif.Gen.TranslatedBroadcast
import Serif.Props.C05

namespace Serif.Tie
open Serif Serif.Vec Serif.Gen.TBc

variable {α β ν κ A P : Type}

/-- a model vector as the object the translated functions read -/
def objOf (v : Vec α) : VectorObj α := { _underlying := v.data, _dtype := v.dtype }

/-- the outcome of a model broadcast as the outcome of the constructor call `Vector(values)` (no `dtype=`) -/
def callOfCol (r : Res (Col β)) : Res (VectorCall (Option β)) :=
  match r with
  | .error e => .error e
  | .ok vs => .ok { values := vs, dtype := none }

/-- how `Vector.__getattr__` sees a name on the class of the elements -/
inductive AttrClass where
  /-- `getattr(kind, name, None)` is None -/
  | missing
  /-- the class attribute is callable -/
  | method
  /-- the class attribute is not callable (a property, a slot, a constant) -/
  | property
  deriving DecidableEq, Repr

/-- the classification, from the two oracles of the translated `__getattr__` -/
def classify (class_getattr : Kind → ν → Option κ) (callable : κ → Bool) (k : Kind) (n : ν) : AttrClass :=
  match class_getattr k n with
  | none => .missing
  | some c => if callable c then .method else .property

/-- `v.<n>` on the model's vector, for a name that reaches `__getattr__`: `f` is the element property -/
def attrAnswer (cls : Kind → AttrClass) (f : α → Res β) (v : Vec α) (n : ν) : Res (GetAttrResult α β ν) :=
  match v.dtype with
  | none => .error .attr
  | some d =>
    if d.kind = .object then .error .attr
    else
      match cls d.kind with
      | .missing => .error .attr
      | .method => .ok (.proxy (methodProxyInitT (objOf v) n))
      | .property =>
        match broadcast f v.data with
        | .error e => .error e
        | .ok r => .ok (.vector { values := r, dtype := none })

/-- `v.<n>(*args, **kwargs)` on the model's vector, for a name that reaches `__getattr__`: `f` is the element method applied to the
    arguments, `g` the element property (evaluated only to see whether it raises before the TypeError).  A property gives a Vector
    (if no element raises), and calling a Vector is a TypeError -/
def callAnswer (cls : Kind → AttrClass) (f : α → Res β) (g : α → Res β) (v : Vec α) : Res (VectorCall (Option β)) :=
  match v.dtype with
  | none => .error .attr
  | some d =>
    if d.kind = .object then .error .attr
    else
      match cls d.kind with
      | .missing => .error .attr
      | .method => callOfCol (broadcast f v.data)
      | .property =>
        match broadcast g v.data with
        | .error e => .error e
        | .ok _ => .error .type

/-- `r(*args, **kwargs)` for the value `r` that `__getattr__` returned (additional definition: the call expression around the two
    translated functions; a `Vector` has no `__call__`) -/
def callResult (elem_call : α → ν → A → Res β) (r : Res (GetAttrResult α β ν)) (args : A) : Res (VectorCall (Option β)) :=
  match r with
  | .error e => .error e
  | .ok (.proxy p) => methodProxyCallT elem_call p args
  | .ok (.vector _) => .error .type

theorem callOfCol_ok {r : Res (Col β)} {c : VectorCall (Option β)} (h : callOfCol r = .ok c) :
    ∃ vs, r = .ok vs ∧ c = { values := vs, dtype := none } := by
  cases r with
  | error e => cases h
  | ok vs => cases h; exact ⟨vs, rfl, rfl⟩

theorem tupleGenT_eq_mapRes {ε ρ : Type} (f : ε → Res ρ) (l : List ε) : tupleGenT f l = mapRes f l := by
  induction l with
  | nil => rfl
  | cons x xs ih =>
    simp only [tupleGenT, mapRes, ih]
    cases f x with
    | error e => rfl
    | ok r => cases mapRes f xs <;> rfl

/-- the element rule as the translator writes it (`E if x is not None else None`, `E` may raise) is the model's `cell1` -/
theorem guardCell_eq (f : α → Res β) (x : Option α) :
    (match x with
     | none => .ok none
     | some x => (match f x with | .ok r => .ok (some r) | .error e => .error e)) = cell1 f x := by
  cases x with
  | none => rfl
  | some a => simp only [cell1]; cases f a <;> rfl

theorem tupleGen_eq_of_cell (f : α → Res β) (g : Option α → Res (Option β)) (hg : ∀ x, g x = cell1 f x) (xs : Col α) :
    tupleGenT g xs = broadcast f xs := by
  rw [tupleGenT_eq_mapRes, mapRes_congr (fun x _ => hg x)]
  rfl

theorem callOfCol_tupleGen (f : α → Res β) (g : Option α → Res (Option β)) (hg : ∀ x, g x = cell1 f x) (xs : Col α) :
    (match tupleGenT g xs with
     | .error e => .error e
     | .ok t => .ok ({ values := t, dtype := none } : VectorCall _)) = callOfCol (broadcast f xs) := by
  rw [tupleGen_eq_of_cell f g hg]
  rfl

/-- a `for` loop whose body appends, to the list so far, what `cell1 f` gives for the element (or raises what it raises) computes
    `acc ++ broadcast f xs`, or raises what the first raising element raises -/
theorem forT_eq_of_step (f : α → Res β) (body : Col β → Option α → Res (Col β))
    (hbody : ∀ acc x, body acc x = (match cell1 f x with
                                     | .error e => .error e
                                     | .ok c => .ok (acc ++ [c])))
    (xs : Col α) (acc : Col β) :
    forT body xs acc = (match broadcast f xs with
                        | .error e => .error e
                        | .ok rs => .ok (acc ++ rs)) := by
  induction xs generalizing acc with
  | nil => simp [forT, broadcast, mapRes]
  | cons x xs ih =>
    unfold broadcast at ih ⊢
    simp only [forT, mapRes, hbody]
    cases cell1 f x with
    | error e => rfl
    | ok c =>
      simp only [ih]
      cases mapRes (cell1 f) xs <;> simp

theorem schema_eq (v : Vec α) : schemaT (objOf v) = v.dtype := rfl

/-- `MethodProxy(v, n)(*args, **kwargs)`: the translated loop is the model's broadcast of the element method
    `fun a => getattr(a, n)(*args, **kwargs)` -/
theorem methodProxyCall_eq (elem_call : α → ν → A → Res β) (v : Vec α) (n : ν) (args : A) :
    methodProxyCallT elem_call (methodProxyInitT (objOf v) n) args
      = callOfCol (broadcast (fun a => elem_call a n args) v.data) := by
  unfold methodProxyCallT
  simp only [methodProxyInitT, objOf]
  rw [forT_eq_of_step (fun a => elem_call a n args)]
  · unfold callOfCol
    cases broadcast (fun a => elem_call a n args) v.data <;> simp
  · intro acc x
    cases x with
    | none => rfl
    | some a => simp only [cell1]; cases elem_call a n args <;> rfl

/-- the translated `__getattr__` is `attrAnswer` of the model's vector -/
theorem getattr_eq (class_getattr : Kind → ν → Option κ) (callable : κ → Bool) (elem_getattr : α → ν → Res β)
    (v : Vec α) (n : ν) :
    getattrT class_getattr callable elem_getattr (objOf v) n
      = attrAnswer (fun k => classify class_getattr callable k n) (fun a => elem_getattr a n) v n := by
  unfold getattrT attrAnswer classify
  simp only [schema_eq]
  cases hd : v.dtype with
  | none => rfl
  | some d =>
    -- beta-reduces the `match`-bound `schema`, so that the `if` on its kind is in sight
    dsimp only
    by_cases hk : d.kind = Kind.object
    · simp [hk]
    · have hk' : (d.kind == Kind.object) = false := by simpa using hk
      simp only [hk', hk, if_false, Bool.false_eq_true]
      cases hc : class_getattr d.kind n with
      | none => rfl
      | some c =>
        -- the same for the `match`-bound `cls_attr`
        dsimp only
        cases hcl : callable c with
        | true => simp
        | false =>
          simp only [Bool.false_eq_true, if_false]
          rw [tupleGen_eq_of_cell (fun a => elem_getattr a n)]
          · rfl
          · exact guardCell_eq _

/-- refusals: an untyped (empty) vector -/
theorem getattr_untyped (class_getattr : Kind → ν → Option κ) (callable : κ → Bool) (elem_getattr : α → ν → Res β)
    (xs : Col α) (n : ν) :
    getattrT class_getattr callable elem_getattr { _underlying := xs, _dtype := none } n = .error .attr := rfl

/-- refusals: an `object` vector, whatever the class says -/
theorem getattr_object (class_getattr : Kind → ν → Option κ) (callable : κ → Bool) (elem_getattr : α → ν → Res β)
    (xs : Col α) (b : Bool) (n : ν) :
    getattrT class_getattr callable elem_getattr { _underlying := xs, _dtype := some { kind := .object, nullable := b } } n
      = .error .attr := rfl

/-- refusals: the class has no such attribute -/
theorem getattr_missing (class_getattr : Kind → ν → Option κ) (callable : κ → Bool) (elem_getattr : α → ν → Res β)
    (v : Vec α) (d : DType) (n : ν) (hd : v.dtype = some d) (hc : class_getattr d.kind n = none) :
    getattrT class_getattr callable elem_getattr (objOf v) n = .error .attr := by
  rw [getattr_eq]
  unfold attrAnswer classify
  simp only [hd, hc]
  split <;> rfl

/-- a callable class attribute: the proxy over this vector and this name, nothing is evaluated yet -/
theorem getattr_method_eq (class_getattr : Kind → ν → Option κ) (callable : κ → Bool) (elem_getattr : α → ν → Res β)
    (v : Vec α) (d : DType) (n : ν) (c : κ) (hd : v.dtype = some d) (hk : d.kind ≠ .object)
    (hc : class_getattr d.kind n = some c) (hcl : callable c = true) :
    getattrT class_getattr callable elem_getattr (objOf v) n = .ok (.proxy (methodProxyInitT (objOf v) n)) := by
  rw [getattr_eq]
  unfold attrAnswer classify
  simp [hd, hk, hc, hcl]

/-- a non-callable class attribute (`dates.year`, `v.real`): the model's broadcast of the element property -/
theorem getattr_property_eq (class_getattr : Kind → ν → Option κ) (callable : κ → Bool) (elem_getattr : α → ν → Res β)
    (v : Vec α) (d : DType) (n : ν) (c : κ) (hd : v.dtype = some d) (hk : d.kind ≠ .object)
    (hc : class_getattr d.kind n = some c) (hcl : callable c = false) :
    getattrT class_getattr callable elem_getattr (objOf v) n
      = (match broadcast (fun a => elem_getattr a n) v.data with
         | .error e => .error e
         | .ok r => .ok (.vector { values := r, dtype := none })) := by
  rw [getattr_eq]
  unfold attrAnswer classify
  simp [hd, hk, hc, hcl]

/-- `v.<n>(*args, **kwargs)`: `__getattr__`, then the call of what it returned, is `callAnswer` of the model's vector -- in the
    method case the model's broadcast of the element method -/
theorem getattr_call_eq (class_getattr : Kind → ν → Option κ) (callable : κ → Bool) (elem_getattr : α → ν → Res β)
    (elem_call : α → ν → A → Res β) (v : Vec α) (n : ν) (args : A) :
    callResult elem_call (getattrT class_getattr callable elem_getattr (objOf v) n) args
      = callAnswer (fun k => classify class_getattr callable k n) (fun a => elem_call a n args) (fun a => elem_getattr a n) v := by
  rw [getattr_eq]
  unfold attrAnswer callAnswer
  cases v.dtype with
  | none => rfl
  | some d =>
    dsimp only
    by_cases hk : d.kind = Kind.object
    · simp [hk, callResult]
    · simp only [hk, if_false]
      cases classify class_getattr callable d.kind n with
      | missing => rfl
      | method => exact methodProxyCall_eq elem_call v n args
      | property =>
        dsimp only
        cases broadcast (fun a => elem_getattr a n) v.data <;> rfl

/-- the method case spelled out: `v.upper()`, `v.bit_length()`, `v.replace('a', 'b')` -/
theorem method_call_eq (class_getattr : Kind → ν → Option κ) (callable : κ → Bool) (elem_getattr : α → ν → Res β)
    (elem_call : α → ν → A → Res β) (v : Vec α) (d : DType) (n : ν) (c : κ) (args : A)
    (hd : v.dtype = some d) (hk : d.kind ≠ .object) (hc : class_getattr d.kind n = some c) (hcl : callable c = true) :
    callResult elem_call (getattrT class_getattr callable elem_getattr (objOf v) n) args
      = callOfCol (broadcast (fun a => elem_call a n args) v.data) := by
  rw [getattr_call_eq]
  unfold callAnswer classify
  simp [hd, hk, hc, hcl]

/-- shape A (`def upper(self, *args, **kwargs)` and the other names of `stringWrapperNames` / `dateWrapperNames`) -/
theorem wrapperMethod_eq (elem_call : α → ν → A → Res β) (m : ν) (v : Vec α) (args : A) :
    wrapperMethodT elem_call m (objOf v) args = callOfCol (broadcast (fun a => elem_call a m args) v.data) := by
  exact callOfCol_tupleGen (fun a => elem_call a m args) _ (guardCell_eq _) v.data

/-- shape B (`def capitalize(self)`) -/
theorem wrapperMethod0_eq (elem_call0 : α → ν → Res β) (m : ν) (v : Vec α) :
    wrapperMethod0T elem_call0 m (objOf v) = callOfCol (broadcast (fun a => elem_call0 a m) v.data) := by
  exact callOfCol_tupleGen (fun a => elem_call0 a m) _ (guardCell_eq _) v.data

/-- shape C (`def before(self, sep)`: the element expression `s.partition(sep)[0]` is the oracle) -/
theorem derivedMethod_eq (elem_expr : α → P → Res β) (v : Vec α) (params : P) :
    derivedMethodT elem_expr (objOf v) params = callOfCol (broadcast (fun a => elem_expr a params) v.data) := by
  exact callOfCol_tupleGen (fun a => elem_expr a params) _ (guardCell_eq _) v.data

/-- an explicit wrapper answers exactly what the proxy would have answered had the name reached `__getattr__` -/
theorem wrapper_eq_proxy (elem_call : α → ν → A → Res β) (m : ν) (v : Vec α) (args : A) :
    wrapperMethodT elem_call m (objOf v) args = methodProxyCallT elem_call (methodProxyInitT (objOf v) m) args := by
  rw [wrapperMethod_eq, methodProxyCall_eq]

/-- element `i` of `v.<n>(*args)` is the method of element `i`, None stays None, the length is kept (C05 `broadcast_pointwise`,
    `length_preserved_broadcast` read on the translated `MethodProxy.__call__`) -/
theorem methodProxyCall_pointwise (elem_call : α → ν → A → Res β) (v : Vec α) (n : ν) (args : A) (c : VectorCall (Option β))
    (h : methodProxyCallT elem_call (methodProxyInitT (objOf v) n) args = .ok c) (i : Nat) :
    c.values.length = v.data.length ∧ c.dtype = none ∧
    (v.data[i]? = some none → c.values[i]? = some none) ∧
    (∀ a, v.data[i]? = some (some a) → ∃ b, elem_call a n args = .ok b ∧ c.values[i]? = some (some b)) := by
  rw [methodProxyCall_eq] at h
  obtain ⟨r, hb, rfl⟩ := callOfCol_ok h
  exact ⟨Serif.C05.length_preserved_broadcast hb, rfl, Serif.C05.broadcast_pointwise hb i⟩

/-- a vector of None only: no element method is ever called, whatever it would do (C05 `broadcast_all_none`) -/
theorem methodProxyCall_all_none (elem_call : α → ν → A → Res β) (d : Option DType) (k : Nat) (n : ν) (args : A) :
    methodProxyCallT elem_call (methodProxyInitT { _underlying := List.replicate k none, _dtype := d } n) args
      = .ok { values := List.replicate k none, dtype := none } := by
  refine (methodProxyCall_eq elem_call { data := List.replicate k none, dtype := d } n args).trans ?_
  rw [Serif.C05.broadcast_all_none]
  rfl

theorem targetClass_cases (d : DType) :
    targetClassT (some d) =
      (match d.kind with
       | .str => .string | .int => .int | .float => .float | .date => .date | _ => .vector) := by
  obtain ⟨k, b⟩ := d
  cases k <;> rfl

/-- the translated dispatch of `Vector.__new__` chooses `_Date` exactly when the model's `Vec.isDate` says so -/
theorem targetClass_date_iff (v : Vec α) : targetClassT v.dtype = .date ↔ v.isDate = true := by
  unfold Vec.isDate
  cases v.dtype with
  | none => simp [targetClassT]
  | some d =>
    rw [targetClass_cases]
    obtain ⟨k, b⟩ := d
    cases k <;> simp

/-- a name in the object's attributes, in the body of its class or in the body of `Vector` never reaches `__getattr__` -/
theorem reaches_false_of_own (object_has : String → Bool) (d : Option DType) (n : String)
    (h : n ∈ ownNamesT (targetClassT d)) : reachesGetattrT object_has d n = false := by
  simp [reachesGetattrT, h]

/-- a name reaches `__getattr__` exactly when neither `object` nor the object / its class / `Vector` has it -/
theorem reaches_iff (object_has : String → Bool) (d : Option DType) (n : String) :
    reachesGetattrT object_has d n = true ↔ object_has n = false ∧ n ∉ ownNamesT (targetClassT d) := by
  simp [reachesGetattrT]

/-- every explicit wrapper of `_String` (all three shapes) is a name of the class body and so is answered by the wrapper
    (`wrapperMethod_eq`, `wrapperMethod0_eq`, `derivedMethod_eq`), never by the proxy, on a str vector -/
theorem string_wrappers_not_broadcast (object_has : String → Bool) (b : Bool) (n : String)
    (h : n ∈ stringWrapperNames ++ stringWrapper0Names ++ stringDerivedNames) :
    reachesGetattrT object_has (some { kind := .str, nullable := b }) n = false := by
  have own : ∀ n ∈ stringWrapperNames ++ stringWrapper0Names ++ stringDerivedNames, n ∈ stringClassNames := by
    decide +kernel
  apply reaches_false_of_own
  simp [targetClassT, ownNamesT, own n h]

/-- the public methods of the two classes that are NOT per-element wrappers of one of the three shapes (and so are not covered by
    `wrapperMethod_eq` / `wrapperMethod0_eq` / `derivedMethod_eq`): none in `_String`, `eomonth` in `_Date`.  A wrapper rewritten in
    another form lands in these lists and stops this theorem from checking -/
theorem other_methods : stringOtherNames = [] ∧ dateOtherNames = ["eomonth"] := by decide +kernel

theorem date_wrappers_not_broadcast (object_has : String → Bool) (b : Bool) (n : String)
    (h : n ∈ dateWrapperNames ++ dateWrapper0Names ++ dateDerivedNames) :
    reachesGetattrT object_has (some { kind := .date, nullable := b }) n = false := by
  have own : ∀ n ∈ dateWrapperNames ++ dateWrapper0Names ++ dateDerivedNames, n ∈ dateClassNames := by decide +kernel
  apply reaches_false_of_own
  simp [targetClassT, ownNamesT, own n h]

/-- `__getattr__` itself, `schema` (which it calls through `object.__getattribute__`) and `_underlying` (which it and the wrappers
    read) are found by ordinary lookup on every vector: the translated chain cannot re-enter itself -/
theorem getattr_reads_own (object_has : String → Bool) (d : Option DType) :
    reachesGetattrT object_has d "__getattr__" = false ∧ reachesGetattrT object_has d "schema" = false ∧
    reachesGetattrT object_has d "_underlying" = false := by
  have own : ∀ n, n ∈ vectorClassNames → n ∈ ownNamesT (targetClassT d) := by
    intro n hn
    simp [ownNamesT, hn]
  exact ⟨reaches_false_of_own _ _ _ (own _ (by decide +kernel)), reaches_false_of_own _ _ _ (own _ (by decide +kernel)),
    reaches_false_of_own _ _ _ (own _ (by decide +kernel))⟩

section Examples

/-- a toy class: `int` has the methods "inc" (adds the argument) and "div" (divides 100 by the element: ZeroDivisionError on 0) and
    the property "real"; `str` has the method "upper"; nothing else exists -/
private def cg : Kind → String → Option Nat := fun k n =>
  if k = .int ∧ (n = "inc" ∨ n = "div") then some 0
  else if k = .int ∧ n = "real" then some 1
  else if k = .str ∧ n = "upper" then some 0
  else none
private def cl : Nat → Bool := fun c => c == 0
private def eg : Nat → String → Res Nat := fun a n => if n = "real" then .ok a else .error .attr
private def ec : Nat → String → Nat → Res Nat := fun a n k =>
  if n = "inc" then .ok (a + k) else if n = "div" then (if a = 0 then .error .other else .ok (100 / a)) else .error .attr

private def ints : Vec Nat := { data := [some 4, none, some 0, some 5], dtype := some { kind := .int, nullable := true } }

-- `ints.real`: a property, evaluated at once, None kept
example : getattrT cg cl eg (objOf ints) "real"
    = .ok (.vector { values := [some 4, none, some 0, some 5], dtype := none }) := by decide
-- `ints.inc`: a method, a proxy comes back and nothing is evaluated
example : getattrT cg cl eg (objOf ints) "inc" = .ok (.proxy (methodProxyInitT (objOf ints) "inc")) := by decide
-- `ints.inc(10)`
example : callResult ec (getattrT cg cl eg (objOf ints) "inc") 10
    = .ok { values := [some 14, none, some 10, some 15], dtype := none } := by decide
-- `ints.div()`: the element 0 raises, the whole call raises that
example : callResult ec (getattrT cg cl eg (objOf ints) "div") 0 = .error .other := by decide
-- … but not when the 0 is not there (None never reaches the method)
example : callResult ec (getattrT cg cl eg (objOf { ints with data := [some 4, none, none] }) "div") 0
    = .ok { values := [some 25, none, none], dtype := none } := by decide
-- `ints.real()`: the property's value is a Vector, which is not callable
example : callResult ec (getattrT cg cl eg (objOf ints) "real") 0 = .error .type := by decide
-- `ints.upper`: `int` has no `upper`
example : getattrT cg cl eg (objOf ints) "upper" = .error .attr := by decide
-- an empty vector without dtype, an `object` vector: AttributeError whatever the name
example : getattrT cg cl eg (objOf { data := [], dtype := none }) "real" = .error .attr := by decide
example : getattrT cg cl eg (objOf { data := [some 1], dtype := some { kind := .object, nullable := false } }) "real"
    = .error .attr := by decide
-- the explicit wrapper and the proxy on the same data
example : wrapperMethodT ec "inc" (objOf ints) 1 = .ok { values := [some 5, none, some 1, some 6], dtype := none } := by decide
example : wrapperMethod0T (fun a n => ec a n 0) "div" (objOf ints) = .error .other := by decide
example : derivedMethodT (fun a (p : Nat × Nat) => if a = p.1 then .error .value else .ok (a * p.2)) (objOf ints) (7, 2)
    = .ok { values := [some 8, none, some 0, some 10], dtype := none } := by decide
-- the empty typed vector
example : callResult ec (getattrT cg cl eg (objOf { data := [], dtype := some { kind := .int, nullable := false } }) "inc") 3
    = .ok { values := [], dtype := none } := by decide

-- the hypotheses of `getattr_method_eq` / `method_call_eq` / `getattr_property_eq` / `getattr_missing` are satisfiable
example : ints.dtype = some { kind := .int, nullable := true } ∧ ({ kind := .int, nullable := true } : DType).kind ≠ .object ∧
    cg .int "inc" = some 0 ∧ cl 0 = true ∧ cg .int "real" = some 1 ∧ cl 1 = false ∧ cg .int "upper" = none := by decide

-- which names reach `__getattr__` (with `object_has` = nothing, the dunder names of `object` aside)
example : reachesGetattrT (fun _ => false) (some { kind := .int, nullable := false }) "bit_length" = true := by decide +kernel
example : reachesGetattrT (fun _ => false) (some { kind := .int, nullable := false }) "real" = true := by decide +kernel
example : reachesGetattrT (fun _ => false) (some { kind := .date, nullable := false }) "year" = true := by decide +kernel
example : reachesGetattrT (fun _ => false) (some { kind := .int, nullable := false }) "upper" = true := by decide +kernel
example : reachesGetattrT (fun _ => false) (some { kind := .str, nullable := false }) "upper" = false := by decide +kernel
example : reachesGetattrT (fun _ => false) (some { kind := .str, nullable := false }) "before" = false := by decide +kernel
example : reachesGetattrT (fun _ => false) (some { kind := .date, nullable := false }) "replace" = false := by decide +kernel
example : reachesGetattrT (fun _ => false) (some { kind := .float, nullable := false }) "replace" = true := by decide +kernel
example : reachesGetattrT (fun _ => false) (some { kind := .float, nullable := false }) "is_integer" = true := by decide +kernel
-- names `Vector` answers itself, on every vector
example : ∀ n ∈ ["name", "max", "sum", "copy", "isna", "fillna", "cast", "T", "shape", "_underlying", "_dtype", "_name"],
    ∀ d ∈ [none, some ({ kind := .int, nullable := false } : DType), some { kind := .str, nullable := true }],
      reachesGetattrT (fun _ => false) d n = false := by decide +kernel
example : "upper" ∈ stringWrapperNames ∧ "capitalize" ∈ stringWrapper0Names ∧ "before" ∈ stringDerivedNames ∧
    "isoformat" ∈ dateWrapperNames ∧ "eomonth" ∈ dateOtherNames := by decide +kernel
example : targetClassT (some { kind := .str, nullable := true }) = .string ∧ targetClassT (none) = .vector ∧
    targetClassT (some { kind := .bool, nullable := false }) = .vector := by decide +kernel

end Examples

end Serif.Tie
