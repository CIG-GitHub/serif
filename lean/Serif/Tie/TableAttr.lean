/-
  Translation tie for attribute access on tables (C17): how an accessor name reaches a column.

  `_parse_indexed_attr`, `Table._fresh_column_map`, `Table._swap_columns`, `Table.__getattr__`, `Table.__setattr__`, `Table.__dir__`,
  `Table.column_names`, `Row.__getattr__` and the str branch of `Row.__getitem__`, translated statement by statement from the
  source (`Serif/Gen/TranslatedTableAttr.lean`, written by harness/tr/tableattr.py on every run), are — instantiated with the
  model's primitives (`ops` below) — the model's `parseIndexedAttr`, `fresh`, `resolveAttr`, `resolveSetAttr`, `resolveRow`,
  `resolveSetItem` (the row lookups, as functions of the map) and the `getattr` / `replace` / `dir` transitions of `step`.
  Hence the C17 theorems (`getattr_resolves_to_own_index`, `setitem_key_resolves_to_own_index`, `history_lookup_correct`)
  are theorems about the translation: `getattr_own_index`, `setattr_own_index`, `row_own_index`, `history_own_index`.

  The instantiation `ops`: `str.rpartition('__')` is the model's `rpartition` (with Python's `('', '', s)` when the separator is
  absent), `str.isdigit` is `allDigits`, `int` is `natOfDigits`, `str.lower` is the identity (the model lives after `.lower()`:
  accessor strings are over `[a-z0-9_]`, and a sanitised name is), `_sanitize_user_name` on a str or None is `baseForIndexed`
  (`sanitizeCore` on a str: tied in Serif/Tie/Sanitize.lean), `Table._build_column_map()` returns `buildColumnMap` of the stored
  names (tied in Serif/Tie/ColumnMap.lean) and marks every column tame.
-/
import Serif.Gen.TranslatedTableAttr
import Serif.Props.C17
import Serif.Proofs.Util

namespace Serif.Tie
open Serif Serif.Names Serif.Gen.TAt

/-- the model's primitives for what the translated functions ask of objects they do not own -/
def ops : Ops where
  rpartition := fun s => match rpartition s with
    | none => ([], [], s)
    | some (b, suf) => (b, ['_', '_'], suf)
  isdigit := allDigits
  int_of := natOfDigits
  lower := id
  sanitize := baseForIndexed
  build_column_map := fun s => (buildColumnMap s.lowers, { s with wild := s.cols.map (fun _ => false) })

/-- a model lookup result as what `Table.__getattr__` / `Row.__getattr__` return or raise -/
def gotOfLook : Look → Except Err Got
  | .col i => .ok (.col i)
  | .attrErr => .error Err.attr
  | .fallback => .ok .super

/-- a model lookup result as what `Table.__setattr__` does (no fallback there: AttributeError) -/
def setOfLook : Look → Except Err SetOut
  | .col i => .ok (.replaced i)
  | _ => .error Err.attr

/-- a model lookup result as what `Row.__getitem__` with a str key returns or raises (SerifKeyError) -/
def itemOfLook : Look → Except Err Got
  | .col i => .ok (.col i)
  | _ => .error Err.key

/-- the model's `Parsed` as the pair `_parse_indexed_attr` returns -/
def pairOfParsed (attr : Str) : Parsed → Except Err (Option Str × Option Nat)
  | .plain => .ok (some attr, none)
  | .indexed b i => .ok (b, some i)
  | .bad => .error Err.attr

theorem pySlice_one (a : Str) (n : Nat) : pySlice a n 1 = (a.drop n).dropLast := by
  unfold pySlice
  rw [List.dropLast_eq_take, List.drop_take, List.length_drop, show a.length - 1 - n = a.length - n - 1 by omega]

/-- `m.get(a) or m.get(a.lower())`, as translated: `ops.lower` is the identity, so both branches are the same lookup -/
theorem truthyGet_eq (m : Dict Str Nat) (a : Str) :
    (if truthy (Dict.get? m a) = true then Dict.get? m a else Dict.get? m (ops.lower a)) = Dict.get? m a :=
  ite_self _

theorem lowers_length (s : TState) : s.lowers.length = s.cols.length := by simp [TState.lowers]

/-- `_parse_indexed_attr`, translated, is the model's `parseIndexedAttr` -/
theorem parseIndexedAttr_eq (attr : Str) :
    parseIndexedAttrT ops attr = pairOfParsed attr (parseIndexedAttr attr) := by
  unfold parseIndexedAttrT parseIndexedAttr
  cases hr : rpartition attr with
  | none => simp [ops, hr, pairOfParsed]
  | some p =>
    obtain ⟨base, suffix⟩ := p
    simp only [ops, hr]
    by_cases hd : allDigits suffix = true
    · by_cases hb : base.isEmpty = true
      · simp [pairOfParsed, hd, hb]
      · simp [pairOfParsed, baseForIndexed, hd, hb]
    · simp [pairOfParsed, hd]

/-- the conditional rebuild at the head of `__getattr__` / in `_fresh_column_map` is the model's `fresh` -/
theorem freshStep_eq (s : TState) :
    (if (if s.wild.isEmpty then [] else s.wild).any (fun col_wild => col_wild) = true
      then ({ (ops.build_column_map s).2 with cache := (ops.build_column_map s).1 } : TState) else s) = fresh s := by
  have : (if s.wild.isEmpty then [] else s.wild) = s.wild := by cases s.wild <;> rfl
  rw [this]; rfl

/-- `Table._fresh_column_map`, translated, returns the cache of the model's `fresh` table and leaves that table -/
theorem freshColumnMap_eq (s : TState) : freshColumnMapT ops s = ((fresh s).cache, fresh s) := by
  unfold freshColumnMapT
  simp only []
  rw [freshStep_eq]

/-- `Table._swap_columns`, translated: the new columns with a rebuilt map, every column tame -/
theorem swapColumns_eq (s : TState) (cols : List (Option Name)) (wild : List Bool) :
    swapColumnsT ops s (cols, wild) = rebuild { s with cols := cols, wild := wild } := rfl

/-- replacing column `i` by a snapshot that is given the stored name of column `i` leaves the stored names as they are:
    the table after the replacement block of `__setattr__` is the model's `rebuild` -/
theorem swap_replace_eq (s : TState) (i : Nat) (w : Bool) :
    swapColumnsT ops s (s.cols.set i (s.cols.getD i none), s.wild.set i w) = rebuild s := by
  rw [swapColumns_eq, List.set_getD_self]; rfl

/-- the indexed branch of `__getattr__` / `__setattr__`, as translated, with `A` for its AttributeError exits, `B` for the
    IndexError of `self._underlying[i]` (unreachable after the range test) and `K` for what follows the validation:
    it is `K` exactly when the model's `resolveIndexed` finds column `i` -/
theorem indexedBranch_eq {β : Type} (s : TState) (base : Option Str) (i : Nat) (A B K : β) :
    (if (decide (i < 0) || decide (i ≥ s.cols.length)) = true then A
     else match s.lowers[i]? with
      | none => B
      | some col_name =>
        match base with
        | none => A
        | some base_name =>
          if (ops.sanitize col_name != some (ops.lower base_name)) = true then A else K)
    = if resolveIndexed s.lowers base i = .col i then K else A := by
  unfold resolveIndexed
  rw [lowers_length]
  by_cases h : i < s.cols.length
  · have hl : i < s.lowers.length := by rw [lowers_length]; exact h
    have hge : ¬ (i ≥ s.cols.length) := by omega
    simp only [Nat.not_lt_zero, decide_false, hge, Bool.or_self, Bool.false_eq_true, if_false, h, if_true,
      List.getElem?_eq_getElem hl, List.getD_eq_getElem?_getD, Option.getD_some]
    cases base with
    | none => simp
    | some b =>
      simp only [ops, id]
      by_cases hb : baseForIndexed s.lowers[i] = some b <;> simp [hb]
  · have hge : i ≥ s.cols.length := by omega
    simp [h, hge]

/-- the `col<N>_` test of `__getattr__`, as translated, is the model's `colNDigits` -/
theorem colTest_eq (attr : Str) :
    (("col".toList).isPrefixOf attr && (attr.getLast? == some '_') && ops.isdigit (pySlice attr 3 1))
      = (colNDigits attr).isSome ∧
    ∀ ds, colNDigits attr = some ds → pySlice attr 3 1 = ds := by
  rw [List.isPrefixOf_eq_take_beq, pySlice_one]
  unfold colNDigits endsWithU
  simp only [ops]
  split
  · rename_i h; exact ⟨by simp [h], fun ds hds => by simpa using hds⟩
  · rename_i h; exact ⟨by simpa using h, fun ds hds => by simp at hds⟩

/-- `Table.__getattr__`, translated, on a built table: the table afterwards is the model's `fresh` table, and what is returned or
    raised is the model's `resolveAttr` on it -/
theorem tableGetattr_eq (s : TState) (attr : Str) :
    tableGetattrT ops true s attr = (fresh s, gotOfLook (resolveAttr (fresh s).lowers (fresh s).cache attr)) := by
  unfold tableGetattrT
  rw [if_neg (by decide), freshStep_eq]
  generalize fresh s = s1
  rw [parseIndexedAttr_eq]
  unfold resolveAttr
  cases parseIndexedAttr attr with
  | bad => rfl
  | indexed base i =>
    refine (indexedBranch_eq s1 base i _ _ _).trans ?_
    rcases resolveIndexed_cases s1.lowers base i with h | h <;> simp [h, gotOfLook]
  | plain =>
    dsimp only [pairOfParsed]
    obtain ⟨hc, hds⟩ := colTest_eq attr
    rw [hc]
    cases hcn : colNDigits attr with
    | some ds =>
      simp only [Option.isSome_some, if_true, hds ds hcn, ops]
      by_cases h : natOfDigits ds < s1.cols.length <;> simp [h, lowers_length, gotOfLook]
    | none =>
      simp only [Option.isSome_none, Bool.false_eq_true, if_false]
      rw [truthyGet_eq, getOr_eq]
      cases Dict.get? s1.cache attr <;> rfl

/-- … which is the `getattr` transition of the model's state machine -/
theorem tableGetattr_step (s : TState) (attr : Str) :
    (tableGetattrT ops true s attr).1 = (step s (.getattr attr)).1 ∧
    (step s (.getattr attr)).2 = .look (resolveAttr (fresh s).lowers (fresh s).cache attr) ∧
    (tableGetattrT ops true s attr).2 = gotOfLook (resolveAttr (fresh s).lowers (fresh s).cache attr) := by
  rw [tableGetattr_eq]; exact ⟨rfl, rfl, rfl⟩

/-- an instance that is still being built (no `_underlying` yet) answers AttributeError and is left alone -/
theorem tableGetattr_unbuilt (s : TState) (attr : Str) :
    tableGetattrT ops false s attr = (s, .error Err.attr) := by
  unfold tableGetattrT; rfl

/-- the snapshot taken by `__setattr__`: `Vector(value)` for a non-Vector, `value.copy()` for a Vector -/
def snapshot {V : Type} (is_vector : V → Bool) (vector_of copy : V → Col) (value : V) : Col :=
  if !(is_vector value) then vector_of value else copy value

/-- what the model's `replace` transition says, as the table afterwards and what `__setattr__` did or raised -/
def setattrSpec (s1 : TState) : Look → TState × Except Err SetOut
  | .col i => (rebuild s1, .ok (.replaced i))
  | _ => (s1, .error Err.attr)

/-- the replacement block of `__setattr__` (snapshot, length guard passed, `cols[i] = value` with the stored name of column `i`,
    `_swap_columns`): the model's `rebuild` of the same stored names -/
theorem replaceBlock_eq {V : Type} (is_vector : V → Bool) (vector_of copy : V → Col) (length : Nat) (s1 : TState) (i : Nat)
    (value : V)
    (hlen : s1.cols = [] ∨ (snapshot is_vector vector_of copy value).len = length) :
    (let value : Col := if (!(is_vector value)) = true then vector_of value else copy value
     if (!s1.cols.isEmpty && decide (value.len ≠ length)) = true then (s1, (.error Err.value : Except Err SetOut))
     else
       let cols := (s1.cols, s1.wild)
       let value := { value with name := s1.cols.getD i none }
       let cols := (cols.1.set i value.name, cols.2.set i value.wild)
       let s := swapColumnsT ops s1 cols
       (s, .ok (SetOut.replaced i))) = (rebuild s1, .ok (.replaced i)) := by
  simp only []
  -- the else-branch first: the new table is `rebuild s1` whatever the snapshot is
  rw [swap_replace_eq]
  -- then fold the inlined snapshot back, so that `hlen` speaks of the same term and both can be generalised
  change (if (!s1.cols.isEmpty && decide ((snapshot is_vector vector_of copy value).len ≠ length)) = true then _ else _) = _
  generalize snapshot is_vector vector_of copy value = v at hlen ⊢
  split
  · rename_i hc
    exfalso
    simp only [Bool.and_eq_true, Bool.not_eq_eq_eq_not, Bool.not_true, List.isEmpty_eq_false_iff, decide_eq_true_eq] at hc
    rcases hlen with h | h
    · exact hc.1 h
    · exact hc.2 h
  · rfl

/-- `Table.__setattr__`, translated, after initialisation, for a name that is not an instance attribute and a value of the table's
    length: the table afterwards and the column replaced (or AttributeError) are those of the model's `resolveSetAttr` on the
    `fresh` table -/
theorem tableSetattr_eq {V : Type} (is_vector : V → Bool) (vector_of copy : V → Col) (length : Nat) (s : TState) (attr : Str)
    (value : V) (hattr : instanceAttrsT.contains attr = false)
    (hlen : s.cols = [] ∨ (snapshot is_vector vector_of copy value).len = length) :
    tableSetattrT ops is_vector vector_of copy true length s attr value
      = setattrSpec (fresh s) (resolveSetAttr (fresh s).lowers (fresh s).cache attr) := by
  unfold tableSetattrT
  rw [hattr, if_neg (by decide), if_pos rfl, freshColumnMap_eq]
  rw [← fresh_cols s] at hlen
  generalize fresh s = s1 at hlen ⊢
  rw [parseIndexedAttr_eq]
  unfold resolveSetAttr
  cases parseIndexedAttr attr with
  | bad => rfl
  | indexed base i =>
    dsimp only [pairOfParsed]
    refine (indexedBranch_eq s1 base i _ _ _).trans ?_
    rcases resolveIndexed_cases s1.lowers base i with h | h
    · rw [h, if_pos rfl]
      exact replaceBlock_eq is_vector vector_of copy length s1 i value hlen
    · rw [h]; rfl
  | plain =>
    dsimp only [pairOfParsed]
    rw [truthyGet_eq, getOr_eq]
    cases Dict.get? s1.cache attr with
    | none => rfl
    | some i => exact replaceBlock_eq is_vector vector_of copy length s1 i value hlen

/-- … which is the `replace` transition of the model's state machine -/
theorem setattrSpec_step (s : TState) (attr : Str) :
    (setattrSpec (fresh s) (resolveSetAttr (fresh s).lowers (fresh s).cache attr)).1 = (step s (.replace attr)).1 ∧
    (setattrSpec (fresh s) (resolveSetAttr (fresh s).lowers (fresh s).cache attr)).2
      = setOfLook (resolveSetAttr (fresh s).lowers (fresh s).cache attr) ∧
    (step s (.replace attr)).2 = .look (resolveSetAttr (fresh s).lowers (fresh s).cache attr) := by
  simp only [step]
  cases resolveSetAttr (fresh s).lowers (fresh s).cache attr <;> exact ⟨rfl, rfl, rfl⟩

/-- the names of the first test go to `object.__setattr__`, whatever the table -/
theorem tableSetattr_instance {V : Type} (is_vector : V → Bool) (vector_of copy : V → Col) (b : Bool) (length : Nat) (s : TState)
    (attr : Str) (value : V) (hattr : instanceAttrsT.contains attr = true) :
    tableSetattrT ops is_vector vector_of copy b length s attr value = (s, .ok .instance_attr) := by
  unfold tableSetattrT; rw [hattr, if_pos rfl]

/-- before `_column_map` is set every other name is refused -/
theorem tableSetattr_uninitialised {V : Type} (is_vector : V → Bool) (vector_of copy : V → Col) (length : Nat) (s : TState)
    (attr : Str) (value : V) (hattr : instanceAttrsT.contains attr = false) :
    tableSetattrT ops is_vector vector_of copy false length s attr value = (s, .error Err.attr) := by
  unfold tableSetattrT; rw [hattr, if_neg (by decide), if_neg (by decide)]

/-- no identifier accessor is one of the instance-attribute names (they all start with `_`) -/
theorem ident_not_instanceAttr {a : Str} (h : isIdent a = true) : instanceAttrsT.contains a = false := by
  have hall : ∀ x ∈ instanceAttrsT, x.head? = some '_' := by decide +kernel
  cases hc : instanceAttrsT.contains a with
  | false => rfl
  | true =>
    exfalso
    have hm : a ∈ instanceAttrsT := by simpa using hc
    have hh := hall a hm
    cases a with
    | nil => cases hh
    | cons c cs =>
      simp only [List.head?_cons, Option.some.injEq] at hh
      subst hh
      simp [isIdent, isLower] at h

/-- `Table.__dir__`, translated: the `dir` transition of the model (the map is rebuilt and kept), and the names listed are the
    accessors of the current stored names followed by `object.__dir__(self)` -/
theorem tableDir_eq (base_attrs : List Str) (s : TState) :
    tableDirT ops base_attrs s = ((step s .dir).1, accessors s.lowers ++ base_attrs) ∧
    (step s .dir).2 = .names (accessors s.lowers) := by
  refine ⟨?_, step_dir s⟩
  unfold tableDirT
  simp only []
  show (rebuild s, Dict.keys (buildColumnMap s.lowers) ++ base_attrs) = _
  rw [keys_buildColumnMap]
  rfl

/-- `Table.column_names`, translated, returns the stored names as they are -/
theorem columnNames_eq (s : TState) : columnNamesT s = s.cols := by
  unfold columnNamesT; simp

/-- `Row.__getattr__`, translated, is the model's `resolveRow` -/
theorem rowGetattr_eq (map : Dict Str Nat) (attr : Str) :
    rowGetattrT ops map attr = gotOfLook (resolveRow map attr) := by
  unfold rowGetattrT resolveRow
  simp only [ops, id]
  cases Dict.get? map attr <;> rfl

/-- the str branch of `Row.__getitem__`, translated, resolves like the model's `resolveSetItem` (a missing column is SerifKeyError) -/
theorem rowGetitemStr_eq (map : Dict Str Nat) (key : Str) :
    rowGetitemStrT ops map key = itemOfLook (resolveSetItem map key) := by
  unfold rowGetitemStrT resolveSetItem
  rw [getOr_eq]
  simp only [ops, id]
  cases h : Dict.get? map key <;> simp [itemOfLook]

/-- `getattr_resolves_to_own_index` on the translation: on a table whose cached map is not stale, `getattr(t, accessor of column k)`
    as translated returns column `k` -/
theorem getattr_own_index (s : TState) (hf : Fresh s) (k : Nat) (a : Str) (h : (accessors s.lowers)[k]? = some a) :
    (tableGetattrT ops true s a).2 = .ok (.col k) := by
  rw [tableGetattr_eq, fresh_lowers, fresh_cache hf, C17.getattr_resolves_to_own_index _ k a h]
  rfl

/-- `setitem_key_resolves_to_own_index` (attribute assignment) on the translation: `t.<accessor of column k> = v` as translated
    replaces column `k`, keeps the stored names, and leaves a fresh map -/
theorem setattr_own_index {V : Type} (is_vector : V → Bool) (vector_of copy : V → Col) (length : Nat) (s : TState) (hf : Fresh s)
    (value : V) (hlen : s.cols = [] ∨ (snapshot is_vector vector_of copy value).len = length)
    (k : Nat) (a : Str) (h : (accessors s.lowers)[k]? = some a) :
    (tableSetattrT ops is_vector vector_of copy true length s a value).2 = .ok (.replaced k) ∧
    (tableSetattrT ops is_vector vector_of copy true length s a value).1.cols = s.cols ∧
    Fresh (tableSetattrT ops is_vector vector_of copy true length s a value).1 := by
  have hid : isIdent a = true := C17.accessors_valid _ a (List.mem_of_getElem? h)
  rw [tableSetattr_eq is_vector vector_of copy length s a value (ident_not_instanceAttr hid) hlen,
    fresh_lowers, fresh_cache hf, (C17.setitem_key_resolves_to_own_index _ k a h).2.1]
  exact ⟨rfl, fresh_cols s, rebuild_Fresh _⟩

/-- row access on the translation: `row.<accessor>` and `row['<accessor>']` give the cell of column `k` -/
theorem row_own_index (names : List (Option Str)) (k : Nat) (a : Str) (h : (accessors names)[k]? = some a) :
    rowGetattrT ops (buildColumnMap names) a = .ok (.col k) ∧ rowGetitemStrT ops (buildColumnMap names) a = .ok (.col k) := by
  obtain ⟨h1, _, h3⟩ := C17.setitem_key_resolves_to_own_index names k a h
  rw [rowGetattr_eq, rowGetitemStr_eq, h1, h3]
  exact ⟨rfl, rfl⟩

/-- `history_lookup_correct` on the translation: after ANY history of renames, renames through views, replacements, appends, `dir()`
    calls and lookups, `dir(t)` as translated lists exactly the accessors of the current stored names (before `object.__dir__`),
    and every one of them, given to the translated `__getattr__`, returns the column at its own position -/
theorem history_own_index (init : List (Option Name)) (hist : List Op) (base_attrs : List Str) :
    let s := (run (mkTable init) hist).1
    (tableDirT ops base_attrs s).2 = accessors s.lowers ++ base_attrs ∧
    ∀ k a, (accessors s.lowers)[k]? = some a →
      (tableGetattrT ops true s a).2 = .ok (.col k) ∧
      rowGetattrT ops (freshColumnMapT ops s).1 a = .ok (.col k) := by
  intro s
  have hf : Fresh s := C17.map_fresh init hist
  refine ⟨by rw [(tableDir_eq base_attrs s).1], fun k a h => ⟨getattr_own_index s hf k a h, ?_⟩⟩
  rw [freshColumnMap_eq]
  show rowGetattrT ops (fresh s).cache a = _
  rw [fresh_cache hf]
  exact (row_own_index s.lowers k a h).1

-- non-vacuity: the translated functions on concrete inputs

deriving instance DecidableEq for Except

private def N (i : Nat) (s : String) : Option Name := some ⟨i, s.toList⟩
private def T0 : TState := mkTable [N 1 "sum", N 2 "sum", N 3 "a b", none]
private def vec (len : Nat) : Col := ⟨N 9 "other", true, len⟩

/-- the accessor map of the demo table (what `dir` shows for it), evaluated once: the vectors below that only consult the map
    rewrite with this instead of each sanitising the three names again -/
private theorem T0_eq :
    T0 = { T0 with cache := [("sum_".toList, 0), ("sum__1".toList, 1), ("a_b".toList, 2), ("col3_".toList, 3)] } := by
  have h : T0.cache = [("sum_".toList, 0), ("sum__1".toList, 1), ("a_b".toList, 2), ("col3_".toList, 3)] := by
    decide +kernel
  rw [← h]

example : parseIndexedAttrT ops "total__5".toList = .ok (some "total".toList, some 5) := by decide +kernel
example : parseIndexedAttrT ops "total__abc".toList = .ok (some "total__abc".toList, none) := by decide
example : parseIndexedAttrT ops "__5".toList = .error Err.attr := by decide
example : (accessors T0.lowers).map String.ofList = ["sum_", "sum__1", "a_b", "col3_"] := by decide +kernel
example : (tableGetattrT ops true T0 "sum__1".toList).2 = .ok (.col 1) := by decide +kernel
example : (tableGetattrT ops true T0 "sum__0".toList).2 = .ok (.col 0) := by decide +kernel
example : (tableGetattrT ops true T0 "a_b__1".toList).2 = .error Err.attr := by decide +kernel
example : (tableGetattrT ops true T0 "sum__7".toList).2 = .error Err.attr := by decide
example : (tableGetattrT ops true T0 "col3_".toList).2 = .ok (.col 3) := by decide
example : (tableGetattrT ops true T0 "col9_".toList).2 = .error Err.attr := by decide
example : (tableGetattrT ops true T0 "a_b".toList).2 = .ok (.col 2) := by rw [T0_eq]; decide +kernel
example : (tableGetattrT ops true T0 "nothing".toList).2 = .ok .super := by rw [T0_eq]; decide +kernel
/-- a column renamed through a live view (`wild`): the lookup rebuilds the map first -/
example : (tableGetattrT ops true (step T0 (.view 2 (N 5 "zz"))).1 "zz".toList).2 = .ok (.col 2) := by decide +kernel
example : (tableSetattrT ops (fun _ => true) vec vec true 4 T0 "a_b".toList 4).2 = .ok (.replaced 2) := by rw [T0_eq]; decide +kernel
example : (tableSetattrT ops (fun _ => true) vec vec true 4 T0 "a_b".toList 4).1.cols = T0.cols := by rw [T0_eq]; decide +kernel
example : (tableSetattrT ops (fun _ => true) vec vec true 4 T0 "a_b".toList 3).2 = .error Err.value := by rw [T0_eq]; decide +kernel
example : (tableSetattrT ops (fun _ => true) vec vec true 4 T0 "col3_".toList 4).2 = .ok (.replaced 3) := by rw [T0_eq]; decide +kernel
example : (tableSetattrT ops (fun _ => true) vec vec true 4 T0 "zzz".toList 4).2 = .error Err.attr := by rw [T0_eq]; decide +kernel
example : (tableSetattrT ops (fun _ => true) vec vec true 4 T0 "_dtype".toList 4).2 = .ok .instance_attr := by decide +kernel
example : (tableDirT ops ["shape".toList] T0).2.map String.ofList = ["sum_", "sum__1", "a_b", "col3_", "shape"] := by decide +kernel
example : columnNamesT T0 = [N 1 "sum", N 2 "sum", N 3 "a b", none] := by decide
example : rowGetattrT ops T0.cache "sum__1".toList = .ok (.col 1) := by rw [T0_eq]; decide +kernel
example : rowGetitemStrT ops T0.cache "sum_".toList = .ok (.col 0) := by rw [T0_eq]; decide +kernel
example : rowGetitemStrT ops T0.cache "sum".toList = .error Err.key := by rw [T0_eq]; decide +kernel
/-- the hypotheses of `tableSetattr_eq` / `setattr_own_index` are satisfiable -/
example : Fresh T0 ∧ (T0.cols = [] ∨ (snapshot (fun _ => true) vec vec 4).len = 4) ∧ (accessors T0.lowers)[2]? = some "a_b".toList :=
  ⟨mkTable_Fresh _, Or.inr rfl, by decide +kernel⟩

end Serif.Tie
