/-
  Tie: ownership of column objects — which operations hand out fresh objects, which the live object (C01, C02).

  Generated side (Serif/Gen/TranslatedOwnership.lean, by harness/tr/ownership.py from /repo's working tree):
  * `ownershipT`: per operation and per place that hands out an object / replaces the columns of `self`, where the Vector
    objects of the result's columns come from (found by abstract interpretation of the current function bodies);
  * `copyT`, `tableInitT`, `setattrReplaceT`, `selectT`, `rshiftDictT`: the copying statements of `Vector.copy`,
    `Table.__init__`, `Table.__setattr__`, multi-name `Table.__getitem__`, dict-form `Table.__rshift__` on the object heap.

  The generated table is compared with the model's expectation (Model/ObjHeap.lean: every operation but `t.name`, `t['name']`,
  `t.cols()[j]` is `HOp.derive`, those three are `HOp.getCol`, `t.name = v` is `HOp.setAttr`); the translated constructors are the
  model's `alloc` / `step`, so the frame theorems of Props/C01 apply to them.  `rshiftDictT`, the dict form of `>>`, is evaluated on a
  concrete heap only (the caller's vector keeps its name, the result is independent).
-/
import Serif.Gen.TranslatedOwnership
import Serif.Props.C01

namespace Serif.Tie
open Serif Serif.Heap Serif.Gen.Own

/-- `HOp.getCol`-like: the live column object of `self` -/
def viewSite : Site := ⟨.vector, [.column 0]⟩
/-- `HOp.derive`-like: a new table, every column a new object -/
def deriveSite : Site := ⟨.table, [.fresh]⟩
/-- `HOp.derive`-like, columns from two sources (`self` and the argument), all new objects -/
def deriveSite2 : Site := ⟨.table, [.fresh, .fresh]⟩
/-- `HOp.setAttr`-like: the other columns stay, the new one is a new object -/
def replaceSite : Site := ⟨.update, [.own, .fresh]⟩
/-- `self[rows][cols]`: covered by the other rows of `Table.__getitem__` -/
def recSite : Site := ⟨.recursive, []⟩

/-- **the model's expectation**, operation by operation, in source order of the places that hand out an object -/
def expectedOwnership : List (String × List Site) := [
  ("Table.__init__", [⟨.update, [.fresh]⟩]),                       -- the new table holds copies only
  ("Table.__setattr__", [replaceSite, replaceSite]),               -- `t.name__N = v`, `t.name = v`
  ("Table.__getattr__", [viewSite, viewSite, viewSite]),           -- `t.name__N`, `t.colN_`, `t.name`
  ("Table.__getitem__", [
    viewSite, viewSite, viewSite, viewSite, viewSite,              -- `t['name']`: exact, system, sanitised, indexed, unnamed
    deriveSite,                                                    -- `t['a', 'b']`
    recSite, recSite, deriveSite, recSite, recSite,                -- `t[rows, cols]`
    viewSite,                                                      -- `t[i]` of a table of tables: the live inner table
    deriveSite, deriveSite, deriveSite, deriveSite]),              -- mask vector, mask list, slice, index vector
  ("Table.__rshift__", [deriveSite2, deriveSite2, deriveSite2, deriveSite2, deriveSite]),
  ("Table.__lshift__", [deriveSite, deriveSite]),
  ("Table.__copy__", [deriveSite]),
  ("Table.T", [deriveSite, deriveSite]),
  ("Table._table_elementwise_operation", [deriveSite, deriveSite]),
  ("Table.__neg__", [deriveSite]),
  ("Table.__pos__", [deriveSite]),
  ("Table.__abs__", [deriveSite]),
  ("Table.__invert__", [deriveSite]),
  ("Table.inner_join", [⟨.table, []⟩, deriveSite]),
  ("Table.join", [⟨.table, []⟩, deriveSite]),
  ("Table.full_join", [⟨.table, []⟩, deriveSite]),
  ("Table.aggregate", [deriveSite]),
  ("Table.window", [deriveSite]),
  ("Table.sort_by", [deriveSite, deriveSite]),
  ("Vector.copy", [deriveSite2]),
  ("Vector.__copy__", [deriveSite]),
  ("Vector.__deepcopy__", [deriveSite]),
  ("Vector.cols", [viewSite, viewSite, ⟨.columns, [.column 0]⟩])
]

/-- the summary found in the current source is the expected one -/
theorem ownership_table_eq : ownershipT = expectedOwnership := rfl

/-- a site is in order: a new table has new column objects only; a handed-out vector / column tuple is a live column of `self`
    (operand 0) and of nothing else; an update keeps own columns and adds new objects only -/
def siteSound (s : Site) : Bool :=
  match s.kind with
  | .table => s.cols.all (· == .fresh)
  | .vector | .columns => s.cols == [.column 0]
  | .update => s.cols.all (fun c => c == .fresh || c == .own)
  | .recursive => s.cols == []

/-- no Vector object of an operand ends up among the columns of a result or of `self` -/
theorem ownership_sound : ∀ p ∈ ownershipT, ∀ s ∈ p.2, siteSound s = true := by decide +kernel

def handsOutLive (s : Site) : Bool := s.kind == .vector || s.kind == .columns

/-- live objects are handed out by attribute access, item access and `cols()` only -/
theorem views_only_where_expected :
    (ownershipT.filter (fun p => p.2.any handsOutLive)).map (·.1) = ["Table.__getattr__", "Table.__getitem__", "Vector.cols"] :=
  rfl

/-- what the vector objects `os` show (`default` for an id that is not a vector object) -/
def contents (h : Heap) (os : List Nat) : List VecVal := os.map (fun o => (h.vecOf o).getD default)

theorem contents_eq_filterMap (h : Heap) (os : List Nat) (hv : ∀ o ∈ os, ∃ v, h.vecOf o = some v) :
    contents h os = os.filterMap h.vecOf :=
  List.map_getD_eq_filterMap h.vecOf default os fun o ho => by obtain ⟨v, e⟩ := hv o ho; simp [e]

theorem vecOf_allocVec_lt (h : Heap) (v : VecVal) (o : Nat) (ho : o < h.next) : (h.allocVec v).1.vecOf o = h.vecOf o :=
  vecOf_congr _ _ _ (allocVec_objs_ne h v o (Nat.ne_of_lt ho))

/-- `tuple(vec.copy() for vec in initial)` allocates one new object per incoming vector, showing the same -/
theorem forEach_copy_eq (os : List Nat) (h : Heap) (hlt : ∀ o ∈ os, o < h.next) :
    forEachT copyT h os = h.allocVecs (contents h os) := by
  induction os generalizing h with
  | nil => rfl
  | cons o os ih =>
    have hlt' : ∀ x ∈ os, x < h.next := fun x hx => hlt x (List.mem_cons_of_mem _ hx)
    have c : contents (copyT h o).1 os = contents h os :=
      List.map_congr_left fun x hx => by rw [copyT, vecOf_allocVec_lt h _ x (hlt' x hx)]
    simp only [forEachT, ih (copyT h o).1 fun x hx => Nat.lt_succ_of_lt (hlt' x hx), c]
    simp only [contents, List.map_cons, allocVecs, copyT]

/-- **`Table.__init__`, translated, is the model's `alloc`** of a table showing what the incoming vectors show -/
theorem tableInitT_eq_alloc (h : Heap) (initial : List Nat) (hlt : ∀ o ∈ initial, o < h.next) :
    tableInitT h initial = h.alloc (.tab (contents h initial)) := by
  simp only [tableInitT, forEach_copy_eq initial h hlt, alloc, newTabT]

def bindT (p : Heap × Nat) (dst : Nat) : Heap := { p.1 with roots := upd p.1.roots dst (some p.2) }

/-- … so `dst = Table([v1, …, vn])` is the model's `derive` step -/
theorem tableInit_is_derive (fpOf : VecVal → Int) (h : Heap) (initial : List Nat) (dst : Nat)
    (hlt : ∀ o ∈ initial, o < h.next) :
    bindT (tableInitT h initial) dst = step fpOf h (.derive dst (.tab (contents h initial))) := by
  simp only [bindT, tableInitT_eq_alloc h initial hlt, step]

/-- **a write through the result leaves the operands as they were**: after `dst = <derivation>`, an accepted write through `dst`
    changes what no older handle shows -/
theorem write_result_keeps_operands (fpOf : VecVal → Int) (h : Heap) (wf : WF h) (dst r' : Nat) (val : AbsVal) (v : VecVal)
    (hne : r' ≠ dst) :
    (step fpOf (step fpOf h (.derive dst val)) (.mutate dst v)).view r' = h.view r' := by
  have hdst : (step fpOf h (.derive dst val)).root dst = some (h.alloc val).2 := by rw [root_derive, if_pos rfl]
  rw [← (C01.derive_frame fpOf h wf dst val).2 r' hne]
  refine view_mutate_of_indep fpOf _ dst r' _ v hdst fun o ho => ?_
  rw [root_derive, if_neg hne] at ho
  exact (C01.derive_independent fpOf h wf dst val o (wf.roots_lt r' o ho) _ hdst).1

/-- **a write through an operand leaves the result as it was**: after `dst = <derivation>`, an accepted write through an older
    vector handle `r` changes nothing of what `dst` shows -/
theorem write_operand_keeps_result (fpOf : VecVal → Int) (h : Heap) (wf : WF h) (dst r w : Nat) (val : AbsVal) (v : VecVal)
    (hne : r ≠ dst) (hr : h.root r = some w) :
    (step fpOf (step fpOf h (.derive dst val)) (.mutate r v)).view dst = some val := by
  have hdst : (step fpOf h (.derive dst val)).root dst = some (h.alloc val).2 := by rw [root_derive, if_pos rfl]
  have hr2 : (step fpOf h (.derive dst val)).root r = some w := by rw [root_derive, if_neg hne, hr]
  have hi := (C01.derive_independent fpOf h wf dst val w (wf.roots_lt r w hr) _ hdst).2.1
  rw [C01.write_frame fpOf _ r dst w _ v hr2 hdst hi]
  exact (C01.derive_frame fpOf h wf dst val).1

/-- the two, for the translated `Table.__init__` (and with it for every operation whose result is built by `Table(…)` /
    `Vector(<vectors>)`, which by `ownership_table_eq` are all the derivations of the table): the new table shows the contents of
    the incoming vectors; a write through it leaves every older handle as it was; a write through an older handle leaves it as it was -/
theorem tableInit_write_independent (fpOf : VecVal → Int) (h : Heap) (wf : WF h) (initial : List Nat) (dst r w : Nat) (v : VecVal)
    (hv : ∀ o ∈ initial, ∃ x, h.vecOf o = some x) (hne : r ≠ dst) (hr : h.root r = some w) :
    let h' := bindT (tableInitT h initial) dst
    h'.view dst = some (.tab (initial.filterMap h.vecOf)) ∧
    (step fpOf h' (.mutate dst v)).view r = h.view r ∧
    (step fpOf h' (.mutate r v)).view dst = some (.tab (initial.filterMap h.vecOf)) := by
  have hlt : ∀ o ∈ initial, o < h.next := wf.lt_of_forall_vecOf hv
  intro h'
  have e : h' = step fpOf h (.derive dst (.tab (contents h initial))) := tableInit_is_derive fpOf h initial dst hlt
  rw [e, contents_eq_filterMap h initial hv]
  exact ⟨(C01.derive_frame fpOf h wf dst _).1, write_result_keeps_operands fpOf h wf dst r _ v hne,
    write_operand_keeps_result fpOf h wf dst r w _ v hne hr⟩

/-- **the replacement block of `Table.__setattr__`, translated, is the model's `setAttr` step**: for a table handle `t` (object
    `ot`, columns `cols`), a vector handle `src` (object `os`) and an existing column `j`.  `true` is `isinstance(value, Vector)`;
    `data` (what `Vector(value)` would show) is not used on that branch. -/
theorem setattrReplaceT_eq_step (fpOf : VecVal → Int) (h : Heap) (wf : WF h) (t src ot os j oc : Nat) (cols : List Nat) (sv : VecVal)
    (data : VecVal) (ht : h.root t = some ot) (hs : h.root src = some os) (hot : h.obj ot = some (.tab cols))
    (hsv : h.vecOf os = some sv) (hj : cols[j]? = some oc) :
    setattrReplaceT true data h ot os j = step fpOf h (.setAttr t j src) := by
  have hoclt : oc < h.next := wf.columnsOf_lt (mem_columnsOf.mpr ⟨cols, hot, List.mem_of_getElem? hj⟩)
  have e1 : copyT h os = h.allocVec sv := by simp only [copyT, hsv, Option.getD_some]
  have ecols : (h.allocVec sv).1.columnsOf ot = cols := by
    simp only [columnsOf, obj, wf.allocVec_objs sv (obj_def h ot ▸ hot)]
  have evec : (h.allocVec sv).1.vecOf oc = h.vecOf oc := vecOf_allocVec_lt h sv oc hoclt
  have enew : (h.allocVec sv).1.obj (h.allocVec sv).2 = some (.vec sv none) := allocVec_new h sv
  simp only [step, ht, hs, hot, hsv, hj]
  simp only [setattrReplaceT, Bool.not_true, Bool.false_eq_true, if_false, e1, ecols, hj, Option.bind_some, evec,
    setNameT, enew]
  simp only [allocVec, upd_upd_same]

/-- … hence `t.name = src` changes what `t` shows and nothing else; in particular `src` shows what it showed (`setAttr_frame`) -/
theorem setattr_keeps_source (fpOf : VecVal → Int) (h : Heap) (wf : WF h) (t src ot os j oc : Nat) (cols : List Nat) (sv : VecVal)
    (data : VecVal) (ht : h.root t = some ot) (hs : h.root src = some os) (hot : h.obj ot = some (.tab cols))
    (hsv : h.vecOf os = some sv) (hj : cols[j]? = some oc) (r' o : Nat) (hr' : h.root r' = some o) (hne : o ≠ ot) :
    (setattrReplaceT true data h ot os j).view r' = h.view r' := by
  rw [setattrReplaceT_eq_step fpOf h wf t src ot os j oc cols sv data ht hs hot hsv hj]
  exact C01.setAttr_frame fpOf h wf t j src r' ot o ht hr' hne

/-- **`t['a', 'b', …]`, translated** (`col.copy()` for every found column, then `Table(selected_cols)`, which copies again), is
    the model's `alloc` of a table showing the found columns, in a heap that differs from `h` by unreachable new objects only -/
theorem selectT_eq_alloc (h : Heap) (wf : WF h) (found : List Nat) (hv : ∀ o ∈ found, ∃ x, h.vecOf o = some x) :
    selectT h found = (h.allocVecs (found.filterMap h.vecOf)).1.alloc (.tab (found.filterMap h.vecOf)) := by
  have hlt : ∀ o ∈ found, o < h.next := wf.lt_of_forall_vecOf hv
  have sp := allocVecs_spec h (contents h found)
  -- the first round of copies: ids `h.next, …`, each a vector object
  have hm : ∀ o ∈ (h.allocVecs (contents h found)).2, h.next ≤ o ∧ o < h.next + (contents h found).length :=
    fun o ho => List.mem_range'_1.mp (sp.ids ▸ ho)
  have hlt1 : ∀ o ∈ (h.allocVecs (contents h found)).2, o < (h.allocVecs (contents h found)).1.next :=
    fun o ho => sp.next ▸ (hm o ho).2
  have hsel : ∀ o ∈ (h.allocVecs (contents h found)).2, ∃ x, (h.allocVecs (contents h found)).1.vecOf o = some x := by
    intro o ho
    obtain ⟨x, _, hx⟩ := sp.new o (hm o ho).1 (hm o ho).2
    exact ⟨x, by simp [vecOf, obj, hx]⟩
  simp only [selectT, forEach_copy_eq found h hlt]
  rw [tableInitT_eq_alloc _ _ hlt1, contents_eq_filterMap _ _ hsel, sp.shows, contents_eq_filterMap h found hv]

/-- … so `dst = t['a', 'b', …]` shows the found columns, and is a `derive` step from a well-formed heap in which every older
    handle shows what it showed: `write_result_keeps_operands` / `write_operand_keeps_result` apply to it -/
theorem select_is_derive (fpOf : VecVal → Int) (h : Heap) (wf : WF h) (found : List Nat) (dst : Nat)
    (hv : ∀ o ∈ found, ∃ x, h.vecOf o = some x) :
    let h1 := (h.allocVecs (found.filterMap h.vecOf)).1
    bindT (selectT h found) dst = step fpOf h1 (.derive dst (.tab (found.filterMap h.vecOf))) ∧
    WF h1 ∧ h1.roots = h.roots ∧ ∀ k, k < h.next → h1.objs k = h.objs k := by
  refine ⟨?_, allocVecs_wf h _ wf, allocVecs_roots h _, (allocVecs_spec h _).objs_lt⟩
  simp only [bindT, selectT_eq_alloc h wf found hv, step]

private def v1 : VecVal := { data := [1, 2, 3], dtype := some ⟨.int, false⟩, name := some "a" }
private def v2 : VecVal := { data := [4, 5, 6], dtype := some ⟨.int, false⟩, name := some "b" }
private def v9 : VecVal := { data := [9, 2, 3], dtype := some ⟨.int, false⟩, name := some "a" }
private def fp0 : VecVal → Int := fun _ => 0
/-- handle 0: a vector (object 0); handle 1: a table (object 3) over the column objects 1, 2 -/
private def h0 : Heap := run fp0 Heap.empty [.derive 0 (.vec v1), .derive 1 (.tab [v1, v2])]

example : h0.vecOf 0 = some v1 ∧ h0.columnsOf 3 = [1, 2] ∧ h0.next = 4 := by decide +kernel

/-- `Table([d, t.b])`: new objects 4, 5 under a new table 6; a write through `d` afterwards does not show in it -/
example :
    let h := bindT (tableInitT h0 [0, 2]) 5
    h.view 5 = some (.tab [v1, v2]) ∧ h.columnsOf 6 = [4, 5] ∧
    (step fp0 h (.mutate 0 v9)).view 5 = some (.tab [v1, v2]) ∧ (step fp0 h (.mutate 0 v9)).view 0 = some (.vec v9) := by decide +kernel

/-- the hypotheses of `tableInit_write_independent` are satisfiable -/
example : (step fp0 (bindT (tableInitT h0 [0, 2]) 5) (.mutate 5 v9)).view 0 = h0.view 0 :=
  (tableInit_write_independent fp0 h0 (C01.reachable_wf fp0 _) [0, 2] 5 0 0 v9
    (by intro o ho
        simp only [List.mem_cons, List.mem_nil_iff, or_false] at ho
        rcases ho with rfl | rfl
        · exact ⟨v1, by decide⟩
        · exact ⟨v2, by decide⟩)
    (by decide) (by decide)).2.1

/-- what the theorems rule out: a constructor that stores the incoming objects (`vec` instead of `vec.copy()`) gives a table in
    which a write through `d` shows -/
example :
    let p := forEachT (fun h o => (h, o)) h0 [0, 2]
    let h := bindT (newTabT p.1 p.2) 5
    (step fp0 h (.mutate 0 v9)).view 5 = some (.tab [v9, v2]) := by decide +kernel

/-- `t['b', 'a']` -/
example :
    let h := bindT (selectT h0 [2, 1]) 5
    h.view 5 = some (.tab [v2, v1]) ∧ (step fp0 h (.tabMutate 5 [v9, v9])).view 1 = some (.tab [v1, v2]) := by decide +kernel

/-- `t.b = d`: column 1 of the table becomes a new object showing `d` under the name "b"; `d` and `t.a` stay -/
example :
    let h := setattrReplaceT true default h0 3 0 1
    h.view 1 = some (.tab [v1, { v1 with name := some "b" }]) ∧ h.view 0 = some (.vec v1) ∧ h.columnsOf 3 = [1, 4] := by decide +kernel

/-- the hypotheses of `setattrReplaceT_eq_step` are satisfiable -/
example : setattrReplaceT true default h0 3 0 1 = step fp0 h0 (.setAttr 1 1 0) :=
  setattrReplaceT_eq_step fp0 h0 (C01.reachable_wf fp0 _) 1 0 3 0 1 2 [1, 2] v1 default (by decide) (by decide) (by decide)
    (by decide) (by decide)

/-- `t >> {'z': d}` -/
example :
    let h := bindT (rshiftDictT h0 3 [0] [some "z"]) 5
    h.view 5 = some (.tab [v1, v2, { v1 with name := some "z" }]) ∧ h.view 0 = some (.vec v1) ∧ h.view 1 = some (.tab [v1, v2]) ∧
    (step fp0 h (.mutate 0 v9)).view 5 = some (.tab [v1, v2, { v1 with name := some "z" }]) ∧
    (step fp0 h (.tabMutate 5 [v9, v9, v9])).view 1 = some (.tab [v1, v2]) := by decide +kernel

end Serif.Tie
