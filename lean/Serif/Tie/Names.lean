/-
  Translation tie for `table._resolve_binary_name` (C18): the function translated from the source equals the model's
  name rule for table-with-table arithmetic. Supplementary (see Serif/Tie/Typing.lean).
-/
import Serif.Gen.Translated
import Serif.Model.Expr

namespace Serif.Tie
open Serif Serif.Gen.T

theorem resolveBinaryName_eq (l r : Option String) :
    resolveBinaryNameT l r = Serif.X.resolveBinaryName l r := by
  unfold resolveBinaryNameT Serif.X.resolveBinaryName
  cases l <;> cases r <;> simp

end Serif.Tie
