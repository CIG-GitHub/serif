/-
  Translation tie for the three join methods (C09, C10, C11): the build loop, the uniqueness test that follows it, the probe
  loop and (full join) the sweep of `Table.inner_join`, `Table.join` and `Table.full_join`, translated statement by statement
  from the source (`Serif/Gen/TranslatedRel.lean`, regenerated on every run by harness/py2lean.py), compute — for every pair of
  key lists and both uniqueness flags — exactly what the hand-written model `Join.joinCore` computes; and `joinCore` is what
  C09–C11 prove equal to the nested-loop specification.

  What the translation abstracts (see the docstrings in the generated file): the copying of cells (a group of loops appending one
  cell per column is one output row `(left row?, right row?)`), the values of the `duplicates` dict (only its keys are used), the
  hashability guard for object columns. `expect in (...)` is covered by the regenerated membership lists (`Join.chkRight`,
  `Join.chkLeft`, theorems `source_checks` of C11).
  Supplementary (see Serif/Tie/Typing.lean).
-/
import Serif.Gen.TranslatedRel

namespace Serif.Tie
open Serif Serif.Join Serif.Gen.TR

section
variable {K : Type} [DecidableEq K]

theorem buildStepInner_eq (chk : Bool) (st : Dict K (List Nat) × List K) (k : K) (row : Nat) :
    buildStepTInner chk st k row = buildStep chk st k row := by
  simp only [buildStepTInner, buildStep]
  cases Dict.get? st.1 k with
  | none => rfl
  | some b => cases chk <;> cases st.2.contains k <;> rfl

theorem buildStepLeft_eq (chk : Bool) (st : Dict K (List Nat) × List K) (k : K) (row : Nat) :
    buildStepTLeft chk st k row = buildStep chk st k row := by
  simp only [buildStepTLeft, buildStep]
  cases Dict.get? st.1 k with
  | none => rfl
  | some b => cases chk <;> cases st.2.contains k <;> rfl

theorem buildStepFull_eq (chk : Bool) (st : Dict K (List Nat) × List K) (k : K) (row : Nat) :
    buildStepTFull chk st k row = buildStep chk st k row := by
  simp only [buildStepTFull, buildStep]
  cases Dict.get? st.1 k with
  | none => rfl
  | some b => cases chk <;> cases st.2.contains k <;> rfl

/-- `for row_idx in range(right_nrows)` over the key list is the model's `buildFrom` -/
theorem buildLoop_eq (step : Dict K (List Nat) × List K → K → Nat → Dict K (List Nat) × List K) (chk : Bool)
    (hstep : ∀ st k row, step st k row = buildStep chk st k row)
    (rkeys : List K) (n : Nat) (st : Dict K (List Nat) × List K) :
    (rkeys.zipIdx n).foldl (fun st p => step st p.1 p.2) st = buildFrom chk rkeys n st := by
  induction rkeys generalizing n st with
  | nil => rfl
  | cons k ks ih =>
    simp only [List.zipIdx_cons, List.foldl_cons, buildFrom]
    rw [hstep]
    exact ih (n + 1) _

/-- the three probe bodies have this common form: `outer` = unmatched left rows are emitted padded, `track` = matched right
    rows are recorded -/
def probeStepG (outer track chkL : Bool) (ix : Dict K (List Nat)) (st : List K × List Pair × List Nat) (k : K) (i : Nat) :
    Except Err (List K × List Pair × List Nat) :=
  if chkL && st.1.contains k then .error .value
  else .ok (if chkL then k :: st.1 else st.1, st.2.1 ++ emit outer i (bucketOf ix k),
            if track then st.2.2 ++ bucketOf ix k else st.2.2)

private theorem emitLoop (i : Nat) (b : List Nat) (out : List Pair) (m : List Nat) :
    b.foldl (fun (st : List Pair × List Nat) j => (st.1 ++ [(some i, some j)], st.2)) (out, m)
      = (out ++ b.map (fun j => (some i, some j)), m) := by
  induction b generalizing out with
  | nil => simp
  | cons j js ih => simp [ih]

private theorem emitLoopTrack (i : Nat) (b : List Nat) (out : List Pair) (m : List Nat) :
    b.foldl (fun (st : List Pair × List Nat) j => (st.1 ++ [(some i, some j)], st.2 ++ [j])) (out, m)
      = (out ++ b.map (fun j => (some i, some j)), m ++ b) := by
  induction b generalizing out m with
  | nil => simp
  | cons j js ih => simp [ih]

private theorem truthy_iff (ix : Dict K (List Nat)) (k : K) :
    pyTruthy (Dict.get? ix k) = !(bucketOf ix k).isEmpty := by
  unfold pyTruthy bucketOf
  cases Dict.get? ix k <;> simp

private theorem iter_eq (ix : Dict K (List Nat)) (k : K) : pyIter (Dict.get? ix k) = bucketOf ix k := rfl

theorem probeStepInner_eq (chkL : Bool) (ix : Dict K (List Nat)) (st : List K × List Pair × List Nat) (k : K) (i : Nat) :
    probeStepTInner chkL ix st k i = probeStepG false false chkL ix st k i := by
  simp only [probeStepTInner, probeStepG, truthy_iff, iter_eq, emitLoop, emit]
  cases chkL <;> cases st.1.contains k <;> cases bucketOf ix k <;> simp

theorem probeStepLeft_eq (chkL : Bool) (ix : Dict K (List Nat)) (st : List K × List Pair × List Nat) (k : K) (i : Nat) :
    probeStepTLeft chkL ix st k i = probeStepG true false chkL ix st k i := by
  simp only [probeStepTLeft, probeStepG, truthy_iff, iter_eq, emitLoop, emit]
  cases chkL <;> cases st.1.contains k <;> cases bucketOf ix k <;> simp

theorem probeStepFull_eq (chkL : Bool) (ix : Dict K (List Nat)) (st : List K × List Pair × List Nat) (k : K) (i : Nat) :
    probeStepTFull chkL ix st k i = probeStepG true true chkL ix st k i := by
  simp only [probeStepTFull, probeStepG, truthy_iff, iter_eq, emitLoopTrack, emit]
  cases chkL <;> cases st.1.contains k <;> cases bucketOf ix k <;> simp

/-- `for left_idx in range(left_nrows)` with the common body is the model's recursive `probe` (which returns the rows emitted
    from position `i` on and the buckets met) -/
theorem probeLoop_eq (outer track chkL : Bool) (ix : Dict K (List Nat)) (lkeys : List K) (i : Nat)
    (seen : List K) (out : List Pair) (m : List Nat) :
    (lkeys.zipIdx i).foldlM (fun st p => probeStepG outer track chkL ix st p.1 p.2) (seen, out, m)
      = match probe outer chkL ix lkeys i seen with
        | .error e => .error e
        | .ok r => .ok (if chkL then lkeys.reverse ++ seen else seen, out ++ r.1, if track then m ++ r.2 else m) := by
  induction lkeys generalizing i seen out m with
  | nil => cases track <;> cases chkL <;> simp [probe, pure, Except.pure]
  | cons k ks ih =>
    rw [List.zipIdx_cons, List.foldlM_cons, probe, probeStepG]
    dsimp only
    cases (chkL && seen.contains k)
    · simp only [Bool.false_eq_true, if_false, bind, Except.bind, ih]
      cases probe outer chkL ix ks (i + 1) (if chkL = true then k :: seen else seen) with
      | error e => rfl
      | ok r => cases track <;> cases chkL <;> simp [List.append_assoc]
    · rfl

theorem sweepFull_eq (nR : Nat) (matched : List Nat) : sweepTFull nR matched = sweep nR matched := by
  unfold sweepTFull sweep
  generalize List.range nR = l
  have (acc : List Pair) : l.foldl (fun out j => if (!matched.contains j) = true then out ++ [(none, some j)] else out) acc
      = acc ++ (l.filter (fun j => !matched.contains j)).map (fun j => (none, some j)) := by
    induction l generalizing acc with
    | nil => simp
    | cons j js ih =>
      simp only [List.foldl_cons, List.filter_cons]
      cases matched.contains j
      · simp only [Bool.not_false, ↓reduceIte]
        rw [ih]
        simp
      · simp only [Bool.not_true, Bool.false_eq_true, ↓reduceIte]
        rw [ih]
  simpa using this []

/-- the text the three methods share after key validation — build loop, `if check_right_unique and duplicates: raise`, probe
    loop — for any loop bodies that are the model's; `fin` is what the method makes of the rows and the matched set -/
theorem loops_eq (outer track chkR chkL : Bool)
    (stepB : Dict K (List Nat) × List K → K → Nat → Dict K (List Nat) × List K)
    (stepP : Dict K (List Nat) → List K × List Pair × List Nat → K → Nat → Except Err (List K × List Pair × List Nat))
    (hB : ∀ st k row, stepB st k row = buildStep chkR st k row)
    (hP : ∀ ix st k i, stepP ix st k i = probeStepG outer track chkL ix st k i)
    (fin : List Pair → List Nat → List Pair) (lkeys rkeys : List K) :
    (if (chkR && !(rkeys.zipIdx.foldl (fun st p => stepB st p.1 p.2) ([], [])).2.isEmpty) then
      (.error Err.value : Except Err (List Pair))
     else
      match lkeys.zipIdx.foldlM (fun st p =>
          stepP (rkeys.zipIdx.foldl (fun st p => stepB st p.1 p.2) ([], [])).1 st p.1 p.2) ([], [], []) with
      | .error e => .error e
      | .ok st => .ok (fin st.2.1 st.2.2))
    = if chkR && !(build chkR rkeys).2.isEmpty then .error .value
      else
        match probe outer chkL (build chkR rkeys).1 lkeys 0 [] with
        | .error e => .error e
        | .ok (ps, m) => .ok (fin ps (if track then m else [])) := by
  rw [buildLoop_eq stepB chkR hB rkeys 0]
  simp only [hP, probeLoop_eq, build]
  refine ite_congr rfl (fun _ => rfl) (fun _ => ?_)
  cases probe outer chkL (buildFrom chkR rkeys 0 ([], [])).1 lkeys 0 [] with
  | error e => rfl
  | ok r => cases track <;> simp

/-- `Table.inner_join`, translated, is the model's `joinCore .inner` -/
theorem joinCoreInner_eq (e : String) (lkeys rkeys : List K) :
    joinCoreTInner (chkRight .inner e) (chkLeft .inner e) lkeys rkeys = joinCore .inner e lkeys rkeys :=
  loops_eq false false _ _ _ _ (buildStepInner_eq _) (probeStepInner_eq _) (fun ps _ => ps) lkeys rkeys

/-- `Table.join` (left join), translated, is the model's `joinCore .left` -/
theorem joinCoreLeft_eq (e : String) (lkeys rkeys : List K) :
    joinCoreTLeft (chkRight .left e) (chkLeft .left e) lkeys rkeys = joinCore .left e lkeys rkeys :=
  loops_eq true false _ _ _ _ (buildStepLeft_eq _) (probeStepLeft_eq _) (fun ps _ => ps) lkeys rkeys

/-- `Table.full_join`, translated, is the model's `joinCore .full` -/
theorem joinCoreFull_eq (e : String) (lkeys rkeys : List K) :
    joinCoreTFull (chkRight .full e) (chkLeft .full e) lkeys rkeys = joinCore .full e lkeys rkeys := by
  rw [joinCore]
  simp only [← sweepFull_eq]
  exact loops_eq true true _ _ _ _ (buildStepFull_eq _) (probeStepFull_eq _)
    (fun ps m => ps ++ sweepTFull rkeys.length m) lkeys rkeys

end

/-- non-vacuity: the translated `full_join` on a small input, against the rows one expects by hand -/
example : joinCoreTFull false false [1, 2, 1] [2, 3, 2] =
    .ok [(some 0, none), (some 1, some 0), (some 1, some 2), (some 2, none), (none, some 1)] := by decide +kernel

example : joinCoreTInner true false [1, 2] [2, 2] = .error Err.value := by decide

end Serif.Tie
