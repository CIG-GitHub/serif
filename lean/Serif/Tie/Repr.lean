/-
  Translation tie for `display._format_column` (C20): the symmetric preview — `list(vals[:k]) + ['...'] + list(vals[len(vals)-k:])`
  when `len(vals) > k * 2`, else every value — and the `if`/`elif` chain that picks the formatting rule of one previewed value,
  translated from the source (`Serif/Gen/TranslatedRepr.lean`, regenerated on every run), are the model's `Repr.preview` and
  `Repr.fmtCell`.  The texts themselves (`str`, `repr`, `:g`, `:.1f`,
  `isoformat`) and the float rule's `is_whole` test stay oracles / hand-modelled (`Repr.isWhole`).
  Supplementary (see Serif/Tie/Typing.lean).
-/
import Serif.Gen.TranslatedRepr

namespace Serif.Tie
open Serif Serif.Repr Serif.Gen.TD

theorem preview_eq {α : Type} (k : Nat) (xs : List α) : previewT k xs = preview k xs := rfl

/-- what each label of the dispatch chain stands for, on the model's cell -/
def render (c : Cell) : Fmt → Res String
  | .lit s => .ok s
  | .floatRule => do
      let whole ← isWhole c
      if whole then need c.f1 else need c.g
  | .str => .ok c.str
  | .iso => need c.iso
  | .repr => .ok c.repr

/-- the translated `if`/`elif` chain selects the rule the model's `fmtCell` applies -/
theorem fmtBranch_eq (kind : Option Kind) (c : Cell) :
    render c (fmtBranchT kind c.eqEllipsis c.isNone c.isStr) = fmtCell kind c := by
  unfold fmtBranchT fmtCell
  cases c.eqEllipsis
  · cases c.isNone
    · cases kind with
      | none => cases c.isStr <;> rfl
      | some k => cases k <;> cases c.isStr <;> rfl
    · rfl
  · rfl

/-- a previewed column is formatted entry by entry with that rule; the placeholder is the literal `'...'` -/
theorem fmtShown_eq (kind : Option Kind) (s : Shown Cell) :
    fmtShown kind s = (match s with
      | .ellipsis => .ok "..."
      | .cell c => render c (fmtBranchT kind c.eqEllipsis c.isNone c.isStr)) := by
  cases s with
  | ellipsis => rfl
  | cell c => simp [fmtShown, fmtBranch_eq]

/-- non-vacuity: 7 values with a preview of 2 show the first two, the placeholder, the last two -/
example : previewT 2 [1, 2, 3, 4, 5, 6, 7] = [.cell 1, .cell 2, .ellipsis, .cell 6, .cell 7] := by decide

end Serif.Tie
