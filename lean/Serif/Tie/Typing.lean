/-
  Translation tie: the definitions generated from the Python source by harness/py2lean.py
  (lean/Serif/Gen/Translated.lean, regenerated on every run) are equal to the hand-written model, for all inputs.

  This is supplementary to the two ties every property check relies on (constants/tables regenerated from the
  source + differential correspondence).  If the source is rewritten in an idiom the translator does not
  understand, this module stops building; that is reported in the evidence as "translation tie unavailable" and
  is by itself not a violation (the extensional ties still hold or fail on their own).
-/
import Serif.Gen.Translated
import Serif.Model.DType

namespace Serif.Tie
open Serif Serif.Gen.T

theorem isNumeric_eq (d : DType) : isNumericT d = d.kind.isNumeric := by
  obtain ⟨k, n⟩ := d
  cases k <;> rfl

theorem isTemporal_eq (d : DType) : isTemporalT d = d.kind.isTemporal := by
  obtain ⟨k, n⟩ := d
  cases k <;> rfl

/-- `isinstance(value, (int, float, complex, bool))` on an exact instance of class `v` -/
theorem isInstanceAny_numeric (v : Kind) :
    Kind.isInstanceAny v [Kind.int, Kind.float, Kind.complex, Kind.bool] = v.isNumeric := by
  cases v <;> rfl

theorem isInstanceAny_temporal (v : Kind) : Kind.isInstanceAny v [Kind.date, Kind.datetime] = v.isTemporal := by
  cases v <;> rfl

/-- `infer_kind` as translated = the model's `inferKind`: on an exact instance of class `v` it names `v` itself (so classifying
    a later element with `infer_kind`, as `promote_with` does, is classifying it by its type) -/
theorem inferKind_eq (t : Tag) : inferKindT t = inferKind t := by
  cases t with
  | none => rfl
  | ty k => cases k <;> rfl

theorem ty_beq_none (v : Kind) : (Tag.ty v == Tag.none) = false := by
  simp

/-- `validate_scalar` as translated accepts exactly what the model's `validates` accepts -/
theorem validates_eq (t : Tag) (d : DType) : validatesT t d = validates d t := by
  cases t with
  | none => cases h : d.nullable <;> simp [validatesT, validates, h]
  | ty v =>
    -- with the value classified, the chain of `if … return True` is the model's disjunction
    simp only [validatesT, validates, ty_beq_none, inferKind_eq, inferKind, Option.getD_some]
    simp [Bool.or_assoc]

/-- `DataType.promote_with` as translated = the model's `promote` -/
theorem promoteWith_eq (d : DType) (t : Tag) : promoteWithT d t = promote d t := by
  cases t with
  | none => rfl
  | ty v =>
    simp only [promoteWithT, promote, ty_beq_none, inferKind_eq, inferKind, Option.getD_some, Tag.typeOf, isNumeric_eq,
      isTemporal_eq, isInstanceAny_numeric, isInstanceAny_temporal]
    -- what is left of the source beyond the model is its `str`/`bytes` branch, dead once `vtype ≠ self.kind`
    by_cases h : v = d.kind <;> simp [h]

def stOf (s : InferStT) : InferSt := { dtype := s.dtype, leadingNone := s.leading_none }

theorem inferStep_eq (s : InferStT) (t : Tag) : stOf (inferStepT s t) = inferStep (stOf s) t := by
  obtain ⟨d, b⟩ := s
  cases d with
  | none =>
    simp only [inferStepT, inferStep, stOf, inferKind_eq]
    cases inferKind t <;> rfl
  | some d => simp [inferStepT, inferStep, stOf, promoteWith_eq]

theorem inferFold_eq (l : List Tag) (s : InferStT) :
    stOf (l.foldl inferStepT s) = l.foldl inferStep (stOf s) := by
  induction l generalizing s with
  | nil => rfl
  | cons t l ih => simp only [List.foldl_cons]; rw [ih, inferStep_eq]

/-- `infer_dtype` as translated (initial state, loop body, final test) = the model's `infer` -/
theorem inferDtype_eq (l : List Tag) : inferDtypeT l = infer l := by
  have h := congrArg InferSt.dtype (inferFold_eq l { dtype := none, leading_none := false })
  simp only [stOf] at h
  simp only [inferDtypeT, infer, ← h]
  cases (l.foldl inferStepT { dtype := none, leading_none := false }).dtype <;> rfl

end Serif.Tie
