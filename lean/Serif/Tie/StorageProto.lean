/-
  Translation tie for the *storage protocol* (C15, and the refusal clause of C01): every function of the library that stores into a
  vector's or table's storage tuple `_underlying` — `Vector.__init__`, `Vector._promote`, `Vector.__setitem__`, `Table.__init__`
  (through `super().__init__`), `Table._swap_columns` and the roll-back loop of `Table.__setitem__` — sliced to the statements that
  touch storage identity or the alias tracker and translated statement by statement (`Serif/Gen/TranslatedStorageProto.lean`,
  regenerated on every run), keeps the model's invariant `RegExact` (Serif/Proofs/AliasHeap.lean: an object is registered under an
  identity iff it is live and its storage has that identity) on every path, normal or raising, for every tracker state, every object,
  every choice of new storage identities by the allocator (reused ones included) and every outcome of the conditions that are not about
  storage; and on the paths the model describes it computes exactly the model's `swapStorage` / `step (.create ·)` / `step (.write ·)`.

  The model's operations `register`, `unregister`, `checkWritable` used by the generated definitions are the ones
  Serif/Tie/AliasTracker.lean ties to the tracker's own source.  Supplementary (see Serif/Tie/Typing.lean).
-/
import Serif.Gen.TranslatedStorageProto
import Serif.Proofs.AliasHeap

namespace Serif.Tie
open Serif Serif.AState Serif.Gen.SP

/-- a property of the tracker state that holds however the method ends (normally, or by an exception at any point) -/
def PostM (P : AState → Prop) : M AState → Prop
  | .ok st => P st
  | .error (st, _) => P st

def Inv (os : List Nat) (st : AState) : Prop := RegExact st ∧ ∀ o ∈ os, st.alive o = true

/-- `Inv` is satisfiable: one vector over storage 5 -/
example : Inv [0] (AState.init.step (.create 5 [1, 2])).1 :=
  ⟨create_exact _ _ _ regExact_init, by decide⟩

theorem PostM.bind {P Q : AState → Prop} {m : M AState} {f : AState → M AState} (hm : PostM Q m)
    (he : ∀ st, Q st → P st) (hf : ∀ st, Q st → PostM P (f st)) : PostM P (m >>= f) := by
  cases m with
  | ok st => exact hf st hm
  | error p => exact he _ hm

theorem PostM.ite {P : AState → Prop} {c : Prop} [Decidable c] {a b : M AState} (ha : PostM P a) (hb : PostM P b) :
    PostM P (if c then a else b) := by
  split
  · exact ha
  · exact hb

/-- "the bracket": `unregister old; assign; register new`, as the generated code spells it around every store into `_underlying`,
    is the model's `swapStorage` (for a live object) -/
theorem bracket_eq (st : AState) (o s' : Nat) (h : st.alive o = true) :
    ((st.unregister o (idOf st o)).setStore o (some s')).register o s' = st.swapStorage o s' := by
  obtain ⟨s, hs⟩ := (alive_iff_store st o).mp h
  simp [swapStorage, idOf, hs]

theorem inv_swap (os : List Nat) (st : AState) (o s' : Nat) (h : Inv os st) : Inv os (st.swapStorage o s') :=
  ⟨swapStorage_exact st o s' h.1, fun x hx => by rw [swapStorage_alive]; exact h.2 x hx⟩

theorem inv_check (os : List Nat) (st : AState) (s : Nat) (h : Inv os st) : Inv os (st.checkWritable s).1 :=
  ⟨checkWritable_exact st s h.1, fun x hx => by rw [checkWritable_alive]; exact h.2 x hx⟩

theorem inv_bracket (os : List Nat) (st : AState) (o s' : Nat) (h : Inv os st) (ho : st.alive o = true) :
    Inv os (((st.unregister o (idOf st o)).setStore o (some s')).register o s') :=
  bracket_eq st o s' ho ▸ inv_swap os st o s' h

theorem idOf_swap (st : AState) (o s' : Nat) (ho : st.alive o = true) : idOf (st.swapStorage o s') o = s' := by
  simp [idOf, swapStorage_store, ho]

/-- `Table._swap_columns`, translated, is the model's `swapStorage` -/
theorem tableSwapColumns_eq (E : Env) (st : AState) (self new_cols : Nat) (h : st.alive self = true) :
    tableSwapColumnsT E st self new_cols = .ok (st.swapStorage self new_cols) := by
  simp [tableSwapColumnsT, bracket_eq st self new_cols h, pure, Except.pure]

theorem tableSwapColumns_exact (E : Env) (os : List Nat) (st : AState) (self new_cols : Nat) (h : Inv os st)
    (hs : st.alive self = true) : PostM (Inv os) (tableSwapColumnsT E st self new_cols) := by
  rw [tableSwapColumns_eq E st self new_cols hs]
  exact inv_swap os st self new_cols h

/-- `Vector._promote`, translated: nothing happens (already the target kind / refused), or the storage is swapped by the protocol -/
theorem vectorPromote_cases (E : Env) (st : AState) (self a b c : Nat) (h : st.alive self = true) :
    vectorPromoteT E st self a b c = .ok st ∨ vectorPromoteT E st self a b c = .error (st, Exc.raised)
    ∨ ∃ n, n ∈ [a, b, c] ∧ vectorPromoteT E st self a b c = .ok (st.swapStorage self n) := by
  have swapped := fun n => congrArg (Except.ok (ε := AState × Exc)) (bracket_eq st self n h)
  unfold vectorPromoteT
  cases E.exits 0
  case true => exact .inr (.inl rfl)
  cases E.returns 0
  case true => exact .inl rfl
  cases E.cond 0
  case true => exact .inr (.inr ⟨a, by simp, swapped a⟩)
  cases E.cond 1
  case true => exact .inr (.inr ⟨b, by simp, swapped b⟩)
  cases E.cond 2
  case true => exact .inr (.inr ⟨c, by simp, swapped c⟩)
  exact .inr (.inl rfl)

/-- each promotion really swaps: `int → float` takes the first bracket -/
theorem vectorPromote_float (E : Env) (st : AState) (self a b c : Nat) (h : st.alive self = true)
    (h0 : E.exits 0 = false) (h1 : E.returns 0 = false) (h2 : E.cond 0 = true) :
    vectorPromoteT E st self a b c = .ok (st.swapStorage self a) := by
  simp [vectorPromoteT, h0, h1, h2, bracket_eq st self _ h, pure, Except.pure]

theorem vectorPromote_exact (E : Env) (os : List Nat) (st : AState) (self a b c : Nat) (h : Inv os st)
    (hs : st.alive self = true) : PostM (fun st' => Inv os st' ∧ st'.alive self = true) (vectorPromoteT E st self a b c) := by
  rcases vectorPromote_cases E st self a b c hs with e | e | ⟨n, _, e⟩ <;> rw [e]
  · exact ⟨h, hs⟩
  · exact ⟨h, hs⟩
  · exact ⟨inv_swap os st self n h, by rw [swapStorage_alive]; exact hs⟩

theorem vectorInitT_eq (E : Env) (st : AState) (self pd ti : Nat) :
    vectorInitT E st self pd ti = .ok
      (((match st.store self with | some p => st.unregister self p | none => st).setStore self
        (some (if E.cond 0 then pd else ti))).register self (if E.cond 0 then pd else ti)) := by
  unfold vectorInitT
  cases hp : st.store self with
  | none => cases E.cond 0 <;> simp [hp, idOf, pure, Except.pure]
  | some p => cases E.cond 0 <;> simp [hp, idOf, pure, Except.pure]

/-- second initialisation of a live object (`Vector(…)` returned a ready `Table`): the model's `swapStorage` -/
theorem vectorInit_eq_swap (E : Env) (st : AState) (self pd ti : Nat) (h : st.alive self = true) :
    vectorInitT E st self pd ti = .ok (st.swapStorage self (if E.cond 0 then pd else ti)) := by
  obtain ⟨s, hs⟩ := (alive_iff_store st self).mp h
  rw [vectorInitT_eq, swapStorage, hs]

/-- first initialisation of the object just allocated (`st.next`): the model's `step (.create s c)` — the translated code does the
    registry part, the contents of the storage (`setData`) are the allocator's -/
theorem vectorInit_eq_create (E : Env) (st : AState) (pd ti : Nat) (c : List Nat) (h : st.store st.next = none) :
    (vectorInitT E { st with next := st.next + 1 } st.next pd ti).map (fun r => r.setData (if E.cond 0 then pd else ti) c)
      = .ok (st.step (.create (if E.cond 0 then pd else ti) c)).1 := by
  rw [vectorInitT_eq, show ({ st with next := st.next + 1 } : AState).store st.next = none from h]
  simp only [Except.map, step]
  rw [← setData_register]
  rfl

theorem vectorInit_exact (E : Env) (os : List Nat) (st : AState) (self pd ti : Nat) (h : Inv os st)
    (hs : st.alive self = true) : PostM (Inv os) (vectorInitT E st self pd ti) := by
  rw [vectorInit_eq_swap E st self pd ti hs]
  exact inv_swap os st self _ h

/-- a new object: exact afterwards, whatever identity the allocator hands out -/
theorem vectorInit_exact_new (E : Env) (st : AState) (pd ti : Nat) (h : RegExact st) :
    PostM RegExact (vectorInitT E { st with next := st.next + 1 } st.next pd ti) := by
  rw [vectorInitT_eq, show ({ st with next := st.next + 1 } : AState).store st.next = none from (h.fresh st.next (Nat.le_refl _)).1]
  refine (regExact_setData _ (if E.cond 0 then pd else ti) []).mp ?_
  rw [← setData_register]
  exact create_exact st _ [] h

theorem tableInit_exact (E Ei : Env) (os : List Nat) (st : AState) (self pd ti : Nat) (h : Inv os st)
    (hs : st.alive self = true) : PostM (Inv os) (tableInitT E st self Ei pd ti) := by
  unfold tableInitT
  exact PostM.ite h (vectorInit_exact Ei os st self pd ti h hs)

/-- `Table.__init__` (first run, on the object just allocated) adds nothing to `Vector.__init__`'s protocol -/
theorem tableInit_eq (E Ei : Env) (st : AState) (self pd ti : Nat) (h : E.exits 0 = false) :
    tableInitT E st self Ei pd ti = vectorInitT Ei st self pd ti := by
  simp [tableInitT, h]

/-- every path through `Vector.__setitem__` — refused by the tracker, left by any other exception before or after the promotion,
    with or without `self._promote(…)`, over empty storage (no check) or not — leaves the registry exact -/
theorem vectorSetitem_exact (E Ep : Env) (os : List Nat) (st : AState) (self n a b c : Nat) (h : Inv os st)
    (hs : st.alive self = true) : PostM (Inv os) (vectorSetitemT E st self n Ep a b c) := by
  -- forward through the method, with `Inv os` and the liveness of `self` stated once at every point where its branches meet
  unfold vectorSetitemT
  -- the `let`s of the generated `do` block, in the order the elaborator made them (a leading `u : Unit` is a join point's argument):
  -- `st1` the state on entry; `r`, `st2` the answer of `check_writable` and its state; `afterCheck u st` everything from
  -- `underlying = self._underlying` to the end; `swap u st old_id` the closing bracket.  Inside `afterCheck`: `underlying` is
  -- `idOf st self`, `typed u` the nest `if updates: if typed column: …`, `promote u` its innermost `if kind differs: self._promote(…)`
  extract_lets st1 swap afterCheck r st2
  have hswap : ∀ u st, Inv os st → st.alive self = true → PostM (Inv os) (swap u st (idOf st self)) :=
    fun _ st hi ha => inv_bracket os st self n hi ha
  have hafter : ∀ u st, Inv os st → st.alive self = true → PostM (Inv os) (afterCheck u st) := by
    intro u st hi ha
    unfold afterCheck
    extract_lets underlying promote typed
    have hpromote : ∀ u, PostM (Inv os) (promote u) := fun _ =>
      PostM.ite (PostM.bind (vectorPromote_exact Ep os st self a b c hi ha) (fun _ h => h.1) fun st' h => hswap () st' h.1 h.2)
        (hswap () st hi ha)
    have htyped : ∀ u, PostM (Inv os) (typed u) := fun _ =>
      PostM.ite (PostM.ite (PostM.ite hi (hpromote ())) (hswap () st hi ha)) (hswap () st hi ha)
    exact PostM.ite hi (htyped ())
  exact PostM.ite (PostM.ite (inv_check os st _ h) (hafter () _ (inv_check os st _ h) (by rw [checkWritable_alive]; exact hs)))
    (hafter () st h hs)

/-- the registry part of the model's `step (.write o s' c)` (the model inlines it; `writeProto_step` below) -/
def writeProto (st : AState) (o s' : Nat) : AState × Bool :=
  match st.store o with
  | none => (st, false)
  | some s =>
    if s = 0 then (st.swapStorage o s', false)
    else if (st.checkWritable s).2 then ((st.checkWritable s).1.swapStorage o s', false)
    else ((st.checkWritable s).1, true)

theorem setData_checkWritable (st : AState) (s x : Nat) (c : List Nat) :
    (st.setData x c).checkWritable s = ((st.checkWritable s).1.setData x c, (st.checkWritable s).2) := by
  have e : (st.setData x c).liveRefs s = st.liveRefs s := rfl
  unfold checkWritable
  rw [e, setData_reg]
  split <;> rfl

/-- `writeProto` is what the model's write step does to registry and storage map; the step only adds the contents of the new storage -/
theorem writeProto_step (st : AState) (o s s' : Nat) (c : List Nat) (h : st.store o = some s) :
    (st.step (.write o s' c)).2 = (writeProto st o s').2 ∧
    (st.step (.write o s' c)).1 = if (writeProto st o s').2 then (writeProto st o s').1 else (writeProto st o s').1.setData s' c := by
  simp only [step, writeProto, h]
  by_cases h0 : s = 0
  · simp [h0, setData_swapStorage]
  · simp only [h0, if_false]
    cases (st.checkWritable s).2 <;> simp [setData_swapStorage]

/-- **`Vector.__setitem__`, translated, is the model's write step** on the paths the model describes (the assignment is not left by an
    exception other than AliasError and needs no promotion), provided a storage tuple is falsy exactly when it is the empty tuple `()`,
    identity 0 (the guard `if self._underlying:`).  In `E` (legend in the docstring of the generated `vectorSetitemT`): `cond 0` = `updates`,
    `cond 1` = typed column, `cond 2` = the kind differs (promotion), `exits i` = the i-th gap that may raise; `n` is `new_tuple`, `a b c` the
    three tuples `_promote` may allocate. -/
theorem vectorSetitem_eq_write (E Ep : Env) (st : AState) (self s n a b c : Nat) (h : st.store self = some s)
    (ht : ∀ x, E.truth x = (x != 0)) (hx0 : E.exits 0 = false)
    (hnp : (E.cond 0 && E.cond 1 && (E.exits 1 || E.cond 2)) = false) :
    vectorSetitemT E st self n Ep a b c =
      if (writeProto st self n).2 then .error ((writeProto st self n).1, Exc.aliasError) else .ok (writeProto st self n).1 := by
  have hid : idOf st self = s := by simp [idOf, h]
  unfold vectorSetitemT
  extract_lets st1 swap afterCheck r st2
  -- after the check nothing but the bracket is left on these paths
  have hafter : ∀ st', st'.store self = some s → afterCheck () st' = .ok (st'.swapStorage self n) := by
    intro st' h'
    have hswap : swap () st' (idOf st' self) = .ok (st'.swapStorage self n) := by
      simp only [swap, bracket_eq st' self n (alive_of_store h')]; rfl
    unfold afterCheck
    extract_lets underlying promote typed
    clear_value swap
    simp only [hx0, Bool.false_eq_true, if_false]
    unfold typed promote
    -- `hnp`: the branch `updates ∧ typed` is not taken, or it neither raises nor promotes; so every path ends in `swap`
    cases h0 : E.cond 0
    · simp [hswap, underlying]
    · cases h1 : E.cond 1
      · simp [hswap, underlying]
      · simp [h0, h1] at hnp
        simp [hnp, hswap, underlying]
  clear_value afterCheck
  simp only [writeProto, h, st1, hid, ht]
  by_cases h0 : s = 0
  · simp [h0, hafter st h]
  · cases hw : (st.checkWritable s).2 <;>
      simp [h0, r, st2, st1, hid, hw, hafter, h, throw, throwThe, MonadExceptOf.throw, bind, Except.bind]

/-- with a promotion on the way (`int` vector, `float` value): the check, the promotion's swap, then the write's swap — the model's
    `write` followed by `swap` -/
theorem vectorSetitem_eq_promote (E Ep : Env) (st : AState) (self s n a b c : Nat) (h : st.store self = some s) (hs0 : s ≠ 0)
    (ht : ∀ x, E.truth x = (x != 0)) (hw : (st.checkWritable s).2 = true) (hx0 : E.exits 0 = false) (hx1 : E.exits 1 = false)
    (h0 : E.cond 0 = true) (h1 : E.cond 1 = true) (h2 : E.cond 2 = true)
    (p0 : Ep.exits 0 = false) (p1 : Ep.returns 0 = false) (p2 : Ep.cond 0 = true) :
    vectorSetitemT E st self n Ep a b c = .ok (((writeProto st self a).1).swapStorage self n) := by
  have hid : idOf st self = s := by simp [idOf, h]
  have hcs : (st.checkWritable s).1.store self = some s := by rw [checkWritable_store]; exact h
  have hal : ((st.checkWritable s).1.swapStorage self a).alive self = true := by
    rw [swapStorage_alive]; exact alive_of_store hcs
  have hpr := vectorPromote_float Ep (st.checkWritable s).1 self a b c (alive_of_store hcs) p0 p1 p2
  have hb := bracket_eq _ self n hal
  unfold vectorSetitemT writeProto
  simp only [bind, Except.bind, pure, Except.pure, throw, throwThe, MonadExceptOf.throw, hid, ht, h, hx0, hx1, h0, h1, h2, hw, hpr]
  simp [hs0, hb]

/-- what the restore loop does, in the model's vocabulary: every column whose storage is no longer the remembered one is swapped back -/
def restoreModel (st : AState) (before : List (Nat × Nat)) : AState :=
  before.foldl (fun st p => if st.store p.1 = some p.2 then st else st.swapStorage p.1 p.2) st

theorem tableSetitemLoop_eq (E : Env) (before : List (Nat × Nat)) (st : AState) (hl : ∀ p ∈ before, st.alive p.1 = true) :
    tableSetitemLoopT E before st = .ok (restoreModel st before) := by
  induction before generalizing st with
  | nil => rfl
  | cons p rest ih =>
    obtain ⟨col, und⟩ := p
    obtain ⟨s, hs⟩ := (alive_iff_store st col).mp (hl (col, und) (by simp))
    have hid : idOf st col = s := by simp [idOf, hs]
    unfold tableSetitemLoopT
    simp only [hid, restoreModel, List.foldl_cons, hs]
    by_cases e : s = und
    · subst e
      simp only [bne_self_eq_false, Bool.false_eq_true, if_false, if_true]
      exact ih st (fun p hp => hl p (by simp [hp]))
    · have e' : (s != und) = true := by simpa using e
      have e2 : ¬ (some s = some und) := by simpa using e
      have hb := bracket_eq st col und (alive_of_store hs)
      rw [hid] at hb
      simp only [e', if_true, e2, if_false, hb]
      exact ih _ (fun p hp => by rw [swapStorage_alive]; exact hl p (by simp [hp]))

theorem restoreModel_inv (os : List Nat) (before : List (Nat × Nat)) (st : AState) (h : Inv os st) :
    Inv os (restoreModel st before) := by
  induction before generalizing st with
  | nil => exact h
  | cons p rest ih =>
    simp only [restoreModel, List.foldl_cons]
    split
    · exact ih st h
    · exact ih _ (inv_swap os st p.1 p.2 h)

/-- a column put back stays put: later rounds that remember the same tuple for it do not touch it -/
theorem restoreModel_store (before : List (Nat × Nat)) (st : AState) (col und : Nat) (hl : st.alive col = true)
    (hc : ∀ u, (col, u) ∈ before → u = und) (h : st.store col = some und ∨ (col, und) ∈ before) :
    (restoreModel st before).store col = some und := by
  induction before generalizing st with
  | nil => simpa [restoreModel] using h
  | cons p rest ih =>
    obtain ⟨c2, u2⟩ := p
    simp only [restoreModel, List.foldl_cons]
    refine ih _ ?_ (fun u hu => hc u (List.mem_cons_of_mem _ hu)) ?_
    · split
      · exact hl
      · rw [swapStorage_alive]; exact hl
    · by_cases e : c2 = col
      · subst e
        cases hc u2 List.mem_cons_self
        refine .inl ?_
        split
        · assumption
        · simp [swapStorage_store, hl]
      · refine h.imp (fun h => ?_) fun h => (List.mem_cons.mp h).resolve_left fun e' => e (Prod.mk.inj e').1.symm
        split
        · exact h
        · simp [swapStorage_store, Ne.symm e, h]

/-- **the roll-back restores every column's storage**: after the loop each live column holds the very tuple remembered for it -/
theorem restoreModel_restores (before : List (Nat × Nat)) (st : AState) (col und : Nat) (hm : (col, und) ∈ before)
    (hl : st.alive col = true) (hc : ∀ u, (col, u) ∈ before → u = und) : (restoreModel st before).store col = some und :=
  restoreModel_store before st col und hl hc (.inr hm)

/-- `Table.__setitem__`, translated: the assignment's result, or — if it raised — the state after the roll-back with the same exception -/
theorem tableSetitemT_eq_restore (E : Env) (cols : List Nat) (assign_cells : AState → M AState) (st : AState) (self : Nat)
    (h1 : PostM (Inv cols) (assign_cells st)) :
    tableSetitemT E cols assign_cells st self = match assign_cells st with
      | .ok st' => .ok st'
      | .error (st', e) => .error (restoreModel st' (cols.map fun c => (c, idOf st c)), e) := by
  simp only [tableSetitemT]
  cases hr : assign_cells st with
  | ok st' => rfl
  | error err =>
    obtain ⟨st', e⟩ := err
    rw [hr] at h1
    have hl : ∀ p ∈ cols.map (fun col => (col, idOf st col)), st'.alive p.1 = true := fun p hp => by
      obtain ⟨c, hc, rfl⟩ := List.mem_map.mp hp
      exact h1.2 c hc
    simp only [tableSetitemLoop_eq E _ st' hl]
    rfl

/-- `Table.__setitem__`: whatever `_assign_cells` did before it raised (as long as it kept the registry exact and the columns alive —
    it is a sequence of `Vector.__setitem__` on the columns), the restore loop leaves the registry exact; and so does the normal path -/
theorem tableSetitem_exact (E : Env) (cols : List Nat) (assign_cells : AState → M AState) (st : AState) (self : Nat)
    (h : Inv cols st) (hac : ∀ st, Inv cols st → PostM (Inv cols) (assign_cells st)) :
    PostM (Inv cols) (tableSetitemT E cols assign_cells st self) := by
  have h1 := hac st h
  rw [tableSetitemT_eq_restore E cols assign_cells st self h1]
  cases hr : assign_cells st with
  | ok st' => rw [hr] at h1; exact h1
  | error err =>
    rw [hr] at h1
    exact restoreModel_inv cols _ err.1 h1

/-- and after a failed assignment every column holds the storage it held before (identity, not just contents) -/
theorem tableSetitem_restores (E : Env) (cols : List Nat) (assign_cells : AState → M AState) (st : AState) (self : Nat)
    (h : Inv cols st) (hac : ∀ st, Inv cols st → PostM (Inv cols) (assign_cells st)) (st' : AState) (e : Exc)
    (hr : tableSetitemT E cols assign_cells st self = .error (st', e)) : ∀ c ∈ cols, st'.store c = st.store c := by
  have h1 := hac st h
  rw [tableSetitemT_eq_restore E cols assign_cells st self h1] at hr
  cases hr2 : assign_cells st with
  | ok st2 => simp [hr2] at hr
  | error err =>
    rw [hr2] at hr h1
    simp only [Except.error.injEq, Prod.mk.injEq] at hr
    intro c hc
    obtain ⟨s, hs⟩ := (alive_iff_store st c).mp (h.2 c hc)
    rw [← hr.1, hs]
    refine restoreModel_restores _ err.1 c s (List.mem_map.mpr ⟨c, hc, by simp [idOf, hs]⟩) (h1.2 c hc) fun u hu => ?_
    obtain ⟨c', _, he⟩ := List.mem_map.mp hu
    cases (Prod.mk.inj he).1
    simpa [idOf, hs] using (Prod.mk.inj he).2.symm

/-- every function of the package that stores into `_underlying` is one of those tied above (the generated list is what the AST scan
    of every module found; a store anywhere else makes the translator drop `assignmentSites`, and this module stops building) -/
example : assignmentSites = ["Table.__setitem__", "Table._swap_columns", "Vector.__init__", "Vector.__setitem__", "Vector._promote"] := by
  decide +kernel

def outcome : M AState → Option Exc
  | .ok _ => none
  | .error (_, e) => some e

def final : M AState → AState
  | .ok st => st
  | .error (st, _) => st

/-- the shape of a store that forgets the old identity: `self._underlying = new_tuple; _ALIAS_TRACKER.register(self, id(new_tuple))` -/
def assignWithoutUnregister (st : AState) (o n : Nat) : AState := (st.setStore o (some n)).register o n

/-- it breaks the invariant: vector 0 over storage 5 is pointed at storage 6 and stays registered under 5 -/
example :
    let st := (AState.init.step (.create 5 [1])).1
    RegExact st ∧ ¬ RegExact (assignWithoutUnregister st 0 6) := by
  refine ⟨create_exact _ _ _ regExact_init, ?_⟩
  intro h
  have := h.exact 5 0 (by decide) (by decide)
  revert this
  decide

/-- and the broken invariant shows: the freed identity 5 is handed to a brand-new vector, whose first write is refused although nothing
    shares its storage; after the translated bracket (`tableSwapColumnsT`) the same history accepts the write -/
example :
    let st := (AState.init.step (.create 5 [1])).1
    (((assignWithoutUnregister st 0 6).step (.create 5 [7])).1.step (.write 1 8 [9])).2 = true
    ∧ (((final (tableSwapColumnsT ⟨fun s => s != 0, fun _ => false, fun _ => false, fun _ => false⟩ st 0 6)).step
          (.create 5 [7])).1.step (.write 1 8 [9])).2 = false := by
  decide +kernel

/-- unregistering a *stale* identity is as bad: `Vector.__setitem__` without the re-binding `underlying = self._underlying` after
    `self._promote(…)` would do exactly this (unregister under the pre-promotion identity 5 while registered under 7) -/
example :
    let st := (AState.init.step (.create 5 [1])).1.swapStorage 0 7
    ¬ RegExact (((st.unregister 0 5).setStore 0 (some 6)).register 0 6) := by
  intro st h
  have := h.exact 7 0 (by decide) (by decide)
  revert this
  decide

/-- conditions all false, no early exit, `()` is identity 0 -/
def envPlain : Env := ⟨fun s => s != 0, fun _ => false, fun _ => false, fun _ => false⟩
/-- the path of `__setitem__` that promotes (`updates`, typed column, kind differs) / of `_promote` that takes the first bracket -/
def envPromote : Env := ⟨fun s => s != 0, fun _ => true, fun _ => false, fun _ => false⟩

/-- two vectors over one caller-supplied tuple (storage 5) -/
def twoSharing : AState := AState.init.run [.create 5 [1, 2], .create 5 [1, 2]]

/-- `v[0] = 9` through vector 0 is refused with AliasError and nothing is re-registered; after vector 1 is collected the same
    assignment is accepted: vector 0 moves to storage 6, is registered there and nowhere else -/
example :
    outcome (vectorSetitemT envPlain twoSharing 0 6 envPlain 7 8 9) = some Exc.aliasError
    ∧ (final (vectorSetitemT envPlain twoSharing 0 6 envPlain 7 8 9)).reg 5 = [0, 1]
    ∧ outcome (vectorSetitemT envPlain (twoSharing.step (.drop 1)).1 0 6 envPlain 7 8 9) = none
    ∧ (final (vectorSetitemT envPlain (twoSharing.step (.drop 1)).1 0 6 envPlain 7 8 9)).reg 5 = []
    ∧ (final (vectorSetitemT envPlain (twoSharing.step (.drop 1)).1 0 6 envPlain 7 8 9)).reg 6 = [0]
    ∧ (final (vectorSetitemT envPlain (twoSharing.step (.drop 1)).1 0 6 envPlain 7 8 9)).store 0 = some 6 := by
  decide +kernel

/-- an empty vector (storage 0 = `()`, shared by every empty vector) is never checked: two empty vectors, the write through one is
    accepted; with a `truth` that called `()` truthy the tracker would have refused it -/
example :
    let st := AState.init.run [.create 0 [], .create 0 []]
    outcome (vectorSetitemT envPlain st 0 6 envPlain 7 8 9) = none
    ∧ outcome (vectorSetitemT ⟨fun _ => true, fun _ => false, fun _ => false, fun _ => false⟩ st 0 6 envPlain 7 8 9)
        = some Exc.aliasError := by
  decide +kernel

/-- an assignment that promotes on the way (`int` vector, `float` value): storage 5 → 7 (`_promote`) → 6; neither 5 nor 7 keeps
    a registration -/
example :
    let st := (AState.init.step (.create 5 [1, 2])).1
    let r := vectorSetitemT envPromote st 0 6 envPromote 7 8 9
    outcome r = none ∧ (final r).reg 5 = [] ∧ (final r).reg 7 = [] ∧ (final r).reg 6 = [0] ∧ (final r).store 0 = some 6 := by
  decide +kernel

/-- `Vector.__init__` on a new object, then again on the same object (`Vector(…)` returning a ready `Table`): the first registration
    is dropped -/
example :
    let r1 := vectorInitT envPlain { AState.init with next := 1 } 0 3 11
    let r2 := vectorInitT envPlain (final r1) 0 3 12
    (final r1).reg 11 = [0] ∧ (final r2).reg 11 = [] ∧ (final r2).reg 12 = [0] ∧ (final r2).store 0 = some 12 := by
  decide +kernel

/-- the roll-back: a table (object 0) with columns 1 and 2 over storages 11 and 12; `_assign_cells` writes column 1 (storage 20) and then
    raises; the restore loop points column 1 back at storage 11 and moves its registration with it -/
example :
    let st := AState.init.run [.create 10 [], .create 11 [1], .create 12 [2]]
    let r := tableSetitemT envPlain [1, 2] (fun st => .error ((st.step (.write 1 20 [9])).1, Exc.raised)) st 0
    outcome r = some Exc.raised ∧ (final r).store 1 = some 11 ∧ (final r).reg 11 = [1] ∧ (final r).reg 20 = []
    ∧ (final r).store 2 = some 12 := by
  decide +kernel

/-- the hypothesis of `tableSetitem_exact` is satisfiable: an `_assign_cells` that swaps a column's storage and raises -/
example : ∀ st, Inv [1, 2] st → PostM (Inv [1, 2]) ((fun st => .error (st.swapStorage 1 20, Exc.raised) : AState → M AState) st) :=
  fun st h => inv_swap [1, 2] st 1 20 h

/-- the hypotheses of `vectorSetitem_eq_write` are satisfiable -/
example : (∀ x, envPlain.truth x = (x != 0)) ∧ envPlain.exits 0 = false
    ∧ (envPlain.cond 0 && envPlain.cond 1 && (envPlain.exits 1 || envPlain.cond 2)) = false := ⟨fun _ => rfl, rfl, rfl⟩

end Serif.Tie
