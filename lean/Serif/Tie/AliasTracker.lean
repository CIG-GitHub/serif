/-
  Translation tie for `alias_tracker._AliasTracker` (C15, and the refusal clause of C01): `register`, `unregister` and
  `check_writable`, translated statement by statement from the source (`Serif/Gen/TranslatedAlias.lean`, regenerated on every run),
  compute on the registry exactly what the model's `AState.register`, `AState.unregister` and `AState.checkWritable` compute — for
  every registry, every liveness assignment, every object and storage identity.  The model's functions are the ones C15's theorems
  (`registry_exact`, `refused_iff_shared`, `tracker_refines_spec`, …) are about.

  Representation: the dict `id(tuple) ↦ [weakref]` is a function `Nat → List Nat` (a missing key and an empty list are the same to
  every reader), a weak reference is its object's serial number, `r()` is `live r`.  Supplementary (see Serif/Tie/Typing.lean).
-/
import Serif.Gen.TranslatedAlias
import Serif.Model.AliasHeap

namespace Serif.Tie
open Serif Serif.AState Serif.Gen.TA

private theorem setReg_reg (st : AState) (s : Nat) (l : List Nat) :
    (st.setReg s l).reg = (fun k => if k = s then l else st.reg k) := rfl

theorem register_eq (st : AState) (o s : Nat) : registerT st.alive st.reg o s = (st.register o s).reg := by
  unfold registerT AState.register AState.liveRefs
  cases h : ((st.reg s).filter st.alive).contains o
  · simp only [h, Bool.false_eq_true, ↓reduceIte, setReg_reg]
    funext k
    by_cases hk : k = s <;> simp [hk]
  · simp only [h, ↓reduceIte]

theorem unregister_eq (st : AState) (o s : Nat) : unregisterT st.alive st.reg o s = (st.unregister o s).reg := by
  unfold unregisterT AState.unregister AState.liveRefs
  cases h : (st.reg s).isEmpty
  case true => simp only [h, ↓reduceIte]
  · simp only [h, Bool.false_eq_true, ↓reduceIte, setReg_reg]
    have hf : (st.reg s).filter (fun r => st.alive r && r != o) = ((st.reg s).filter st.alive).filter (· != o) := by
      rw [List.filter_filter]
      congr 1
      funext r
      exact Bool.and_comm _ _
    rw [hf]
    cases hl : ((st.reg s).filter st.alive).filter (· != o) with
    | nil => simp
    | cons a l => simp

theorem checkWritable_eq (st : AState) (o s : Nat) :
    checkWritableT st.alive st.reg o s = ((st.checkWritable s).1.reg, (st.checkWritable s).2) := by
  unfold checkWritableT AState.checkWritable AState.liveRefs
  cases h : (st.reg s).isEmpty
  case true => simp only [h, ↓reduceIte]
  · simp only [h, Bool.false_eq_true, ↓reduceIte, setReg_reg, List.filter_filter, Bool.and_self]
    by_cases hl : ((st.reg s).filter st.alive).length ≤ 1 <;> simp [hl]

/-- non-vacuity: two live owners of storage 7 — the check refuses; after one unregisters it accepts -/
example : (checkWritableT (fun _ => true) (fun k => if k = 7 then [1, 2] else []) 1 7).2 = false ∧
    (checkWritableT (fun _ => true) (unregisterT (fun _ => true) (fun k => if k = 7 then [1, 2] else []) 2 7) 1 7).2 = true := by
  decide +kernel

end Serif.Tie
