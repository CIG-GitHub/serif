/-
  Translation tie for the CSV reader: `csv._infer_type` translated statement by statement (blank test, strip, `int()` then `float()`
  under `except ValueError`, the stripped text) and `csv._read_csv_from_file` after `all_rows = list(reader)` (a transcription
  that the translator emits only when every statement of the function has exactly the understood shape) equal the model's
  `inferType` / `readCsv` for every oracle of Python's scalar conversions, every header setting and every list of records.
  Supplementary (see Serif/Tie/Typing.lean).
-/
import Serif.Gen.Translated
import Serif.Proofs.Util

namespace Serif.Tie
open Serif Serif.Csv Serif.Gen.T

theorem inferType_eq {τ ν : Type} (O : Oracle τ ν) (v : τ) : inferTypeT O v = inferType O v := rfl

theorem cellAt_ite {τ ν : Type} (O : Oracle τ ν) (row : List τ) (c : Nat) :
    (if c < row.length then cellAt O row c else O.none) = cellAt O row c := by
  unfold cellAt
  split
  · rfl
  · rw [List.getElem?_eq_none (by omega)]

/-- the double loop of the source; its cell, `if col_idx < len(row) … match row[col_idx]? …` in the generated text, is `cellAt` inside the `if` by unfolding -/
theorem columns_eq {τ ν : Type} (O : Oracle τ ν) (header : List String) (rows : List (List τ)) :
    (List.range header.length).map (fun c =>
        ({ name := header.getD c "", data := rows.map fun row => if c < row.length then cellAt O row c else O.none } : Column ν)) =
      header.mapIdx (fun c h => { name := h, data := column O rows c }) := by
  simp only [cellAt_ite]
  exact List.map_range_getD (fun c h => ({ name := h, data := column O rows c } : Column ν)) header ""

theorem readCsv_eq {τ ν : Type} (O : Oracle τ ν) (hasHeader : Bool) (all : List (List τ)) :
    readCsvT O hasHeader all = readCsv O hasHeader all := by
  cases all with
  | nil => rfl
  | cons first rest =>
    cases hasHeader
    · exact columns_eq O (colNames first.length) (first :: rest)
    · cases rest with
      | nil => rfl
      | cons r rs => exact columns_eq O (first.map O.raw) (r :: rs)

end Serif.Tie
