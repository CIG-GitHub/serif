/-
  Translation tie for the key validation of the joins (C09, C10, C11): `Table._validate_join_keys` with its inner functions
  `get_column` and `validate_key_dtype`, `Table._resolve_column`, `_missing_col_error`, `Table._validate_key_tuple_hashable`, and the
  heads of `Table.inner_join` / `join` / `full_join` (`if expect not in (…): raise`, the call of `_validate_join_keys`, the flags
  `validate_hashable`, `check_right_unique`, `check_left_unique`), translated statement by statement from the source
  (`Serif/Gen/TranslatedJoinKeys.lean`, regenerated on every run by harness/tr/joinkeys.py).

  The translated functions are read with `jkOps`, the model's reading of the three external operations.  A head is the part of
  `Join.run` before `joinCore`; with Serif/Tie/Join.lean the whole of `Join.run` up to the assembly is translated code.  The
  hashability guard has no counterpart in the model (its cells are all hashable): the translated `_validate_key_tuple_hashable`
  returns iff `hash(key_tuple)` returns, so on the model's domain the guarded calls of the loops are no-ops.
-/
import Serif.Gen.TranslatedJoinKeys
import Serif.Tie.Join
import Serif.Proofs.Join

namespace Serif.Tie
open Serif Serif.Join Serif.Gen.JK

/-- the model's reading of what the translated functions ask of other objects: `table[name]` finds the first column of that name
    or raises SerifKeyError (`Join.lookupCol`), `col.schema()` is `Join.keyDType`, `len(table)` is `Tab.nrows` -/
def jkOps : Ops where
  getitem := fun t s => match lookupCol t.names t.cols s with
    | some c => .ok c
    | none => .error .key
  schema := keyDType
  tlen := Tab.nrows

/-- `_resolve_column` alone: a missing name is whatever `table[name]` raises, a non-spec is SerifTypeError -/
theorem resolveColumn_eq (t : Tab Cell) (k : KeySpec) : resolveColumnT jkOps t k = resolve t k := by
  cases k with
  | name s =>
    simp only [resolveColumnT, resolve, jkOps]
    cases lookupCol t.names t.cols s <;> rfl
  | vec c => rfl
  | bad => rfl

/-- `get_column`: the handler turns SerifKeyError into the SerifKeyError of `_missing_col_error`, and lets SerifTypeError pass -/
theorem getColumn_eq (t : Tab Cell) (k : KeySpec) : getColumnT jkOps t k = resolve t k := by
  unfold getColumnT
  rw [resolveColumn_eq]
  cases k with
  | name s =>
    simp only [resolve]
    cases lookupCol t.names t.cols s <;> simp [missingColErrorT]
  | vec c => rfl
  | bad => simp [resolve]

/-- "`kind is float` raises, then `kind not in allowed_types` raises" is the model's `allowedKeyKind` -/
theorem keyKind_eq (k : Kind) :
    (if (k == Kind.float) = true then (Except.error Err.type : Except Err Unit)
     else if (![Kind.int, Kind.str, Kind.bool, Kind.date, Kind.datetime, Kind.object].contains k) = true then .error Err.type
     else .ok ()) = (if allowedKeyKind k then .ok () else .error .type) := by
  cases k <;> rfl

theorem validateKeyDtype_eq (c : List Cell) : validateKeyDtypeT jkOps c = checkKeyDType c := by
  unfold validateKeyDtypeT checkKeyDType
  simp only [jkOps]
  cases keyDType c with
  | none => rfl
  | some d => exact keyKind_eq d.kind

private theorem ite_bne {α β : Type} [DecidableEq α] (a b : α) (x y : β) :
    (if (a != b) = true then x else y) = if a = b then y else x := by
  by_cases h : a = b <;> simp [h]

/-- `for i, (left_spec, right_spec) in enumerate(zip(left_on, right_on))`, from any index and any list collected so far,
    is the model's recursion `validatePairs`: the loop body and one unfolding of the recursion make the same checks in the
    same order, and a pair that passes is appended here and consed there -/
theorem pairLoop_eq (L R : Tab Cell) (ls rs : List KeySpec) (n : Nat) (acc : List (List Cell × List Cell)) :
    (enumerateFrom n (List.zip ls rs)).foldlM (fun normalized p => pairStepT jkOps L R normalized p.1 p.2.1 p.2.2) acc =
      match validatePairs L R ls rs with
      | .error e => .error e
      | .ok rest => .ok (acc ++ rest) := by
  induction ls generalizing rs n acc with
  | nil => simp [validatePairs_nil_left, enumerateFrom, pure, Except.pure]
  | cons l ls ih =>
    cases rs with
    | nil => simp [validatePairs_nil_right, enumerateFrom, pure, Except.pure]
    | cons r rs =>
      -- what both sides do once the pair `p` has passed its checks
      have tail : ∀ p, (Except.ok (acc ++ [p]) >>= fun a => (enumerateFrom (n + 1) (List.zip ls rs)).foldlM
            (fun normalized p => pairStepT jkOps L R normalized p.1 p.2.1 p.2.2) a)
          = match (match validatePairs L R ls rs with
              | .error e => Except.error e
              | .ok rest => .ok (p :: rest)) with
            | .error e => .error e
            | .ok rest => .ok (acc ++ rest) := by
        intro p
        simp only [bind, Except.bind, ih]
        cases validatePairs L R ls rs <;> simp
      simp only [List.zip_cons_cons, enumerateFrom, List.foldlM_cons]
      rw [validatePairs, pairStepT, getColumn_eq, getColumn_eq]
      cases resolve L l with
      | error e => rfl
      | ok lc =>
        cases resolve R r with
        | error e => rfl
        | ok rc =>
          dsimp only
          -- every length test, the generated `if (a != b)` and the model's `if a ≠ b`, as `if a = b then … else raise`
          have hl : jkOps.tlen L = L.nrows := rfl
          have hr : jkOps.tlen R = R.nrows := rfl
          have hs : jkOps.schema = keyDType := rfl
          rw [validateKeyDtype_eq, validateKeyDtype_eq, hl, hr, hs, ite_bne, ite_bne, ite_not, ite_not]
          -- after `ite_bne` the generated test is `lc.length = L.nrows` or `L.nrows = lc.length`, as the source orders
          -- its `!=`.  Unequal: `simp only` gets `h1` and `Ne.symm h1` as one argument; equal: `rw [h1]` makes the two
          -- sides one term and `if_pos rfl` fires either way.  `h2` likewise on the right
          by_cases h1 : lc.length = L.nrows
          case neg => simp only [And.intro h1 (Ne.symm h1), if_false]; rfl
          rw [h1, if_pos rfl, if_pos rfl]
          by_cases h2 : rc.length = R.nrows
          case neg => simp only [And.intro h2 (Ne.symm h2), if_false]; rfl
          rw [h2, if_pos rfl, if_pos rfl]
          cases checkKeyDType lc with
          | error e => rfl
          | ok _ =>
            cases checkKeyDType rc with
            | error e => rfl
            | ok _ =>
              simp only
              cases keyDType lc with
              | none => cases keyDType rc <;> exact tail (lc, rc)
              | some a =>
                cases keyDType rc with
                | none => exact tail (lc, rc)
                | some b =>
                  simp only
                  by_cases hk : (a.kind != b.kind) = true
                  · simp only [if_pos hk]; rfl
                  · simp only [if_neg hk]; exact tail (lc, rc)

/-- `Table._validate_join_keys`, translated, is the model's `validateKeys` -/
theorem validateJoinKeys_eq (L R : Tab Cell) (lon ron : OnArg) :
    validateJoinKeysT jkOps L R lon ron = validateKeys L R lon ron := by
  have key : ∀ ls rs : List KeySpec,
      (if (ls.isEmpty || rs.isEmpty) = true then (.error Err.value : Except Err (List (List Cell × List Cell)))
       else if (ls.length != rs.length) = true then .error Err.value
       else
        match (enumerate (List.zip ls rs)).foldlM (fun normalized p => pairStepT jkOps L R normalized p.1 p.2.1 p.2.2) [] with
        | .error e => .error e
        | .ok normalized => .ok normalized)
      = (if (ls.isEmpty || rs.isEmpty) = true then .error .value
         else if ls.length ≠ rs.length then .error .value
         else validatePairs L R ls rs) := by
    intro ls rs
    unfold enumerate
    rw [pairLoop_eq]
    simp only [bne_iff_ne, List.nil_append]
    refine ite_congr rfl (fun _ => rfl) (fun _ => ite_congr rfl (fun _ => rfl) (fun _ => ?_))
    cases validatePairs L R ls rs <;> rfl
  unfold validateJoinKeysT validateKeys
  cases lon with
  | other => cases ron <;> rfl
  | single l => cases ron with
    | other => rfl
    | single r => exact key _ _
    | list rs => exact key _ _
  | list ls => cases ron with
    | other => rfl
    | single r => exact key _ _
    | list rs => exact key _ _

/-- what a head hands on, in the model's terms -/
def headOf (kind : JKind) (e : String) (kp : List (List Cell × List Cell)) : Head :=
  { pairs := kp
    left_keys := kp.map (·.1)
    right_keys := kp.map (·.2)
    validate_hashable := (kp.map (·.1) ++ kp.map (·.2)).any (fun c =>
      match keyDType c with
      | none => true
      | some d => d.kind == Kind.object)
    check_right_unique := chkRight kind e
    check_left_unique := chkLeft kind e }

/-- the part of `Join.run` before `joinCore` -/
def headModel (kind : JKind) (e : String) (L R : Tab Cell) (lon ron : OnArg) : Except Err Head :=
  if !acceptsExpect kind e then .error .value
  else
    match validateKeys L R lon ron with
    | .error er => .error er
    | .ok kp => .ok (headOf kind e kp)

/-- the three heads are the same statements up to their membership tuples `expect in (…)`: `acc`, `cr`, `cl` stand for the three
    tests as written in a head, so that each generated head unifies with the left-hand side; `ha hr hl` say which tuple each is -/
theorem head_eq (kind : JKind) (e : String) (L R : Tab Cell) (lon ron : OnArg) (acc cr cl : Bool)
    (ha : acc = acceptsExpect kind e) (hr : cr = chkRight kind e) (hl : cl = chkLeft kind e) :
    (if !acc then (.error Err.value : Except Err Head)
     else match validateJoinKeysT jkOps L R lon ron with
      | .error e => .error e
      | .ok (pairs : List (List Cell × List Cell)) =>
        .ok { pairs := pairs, left_keys := pairs.map (·.1), right_keys := pairs.map (·.2),
              validate_hashable := (pairs.map (·.1) ++ pairs.map (·.2)).any
                (fun col => (match jkOps.schema col with | none => true | some d_ => (d_.kind == Kind.object))),
              check_right_unique := cr, check_left_unique := cl })
      = headModel kind e L R lon ron := by
  subst ha hr hl
  unfold headModel
  rw [validateJoinKeys_eq]
  cases acceptsExpect kind e
  · rfl
  · cases validateKeys L R lon ron <;> rfl

def joinHeadT : JKind → Ops → Tab Cell → Tab Cell → OnArg → OnArg → String → Except Err Head
  | .inner => joinHeadTInner
  | .left => joinHeadTLeft
  | .full => joinHeadTFull

theorem joinHead_eq (kind : JKind) (e : String) (L R : Tab Cell) (lon ron : OnArg) :
    joinHeadT kind jkOps L R lon ron e = headModel kind e L R lon ron := by
  cases kind
  · exact head_eq .inner e L R lon ron _ _ _ rfl rfl rfl
  · exact head_eq .left e L R lon ron _ _ _ rfl rfl rfl
  · exact head_eq .full e L R lon ron _ _ _ rfl rfl rfl

/-- the outcome of a head in the terms of C11 (`expect_meaning`, `source_accepts`, `source_checks`, `bad_expect_rejected`) -/
theorem head_outcome (kind : JKind) (e : String) (L R : Tab Cell) (lon ron : OnArg) :
    joinHeadT kind jkOps L R lon ron e =
      if !validExpect e then .error .value
      else
        match validateKeys L R lon ron with
        | .error er => .error er
        | .ok kp => .ok { headOf kind e kp with check_right_unique := needsRight e, check_left_unique := needsLeft e } := by
  rw [joinHead_eq]
  unfold headModel
  rw [acceptsExpect_eq]
  cases hv : validExpect e
  · rfl
  · simp only [Bool.not_true, Bool.false_eq_true, if_false]
    cases validateKeys L R lon ron with
    | error er => rfl
    | ok kp => simp only [headOf, (chk_eq kind e hv).1, (chk_eq kind e hv).2]

theorem head_bad_expect (kind : JKind) (e : String) (hv : validExpect e = false) (L R : Tab Cell) (lon ron : OnArg) :
    joinHeadT kind jkOps L R lon ron e = .error .value := by
  rw [head_outcome]
  simp [hv]

/-- `Join.run` is the translated head, then any loops that compute `joinCore` from the head's flags and key
    columns, then the model's assembly -/
theorem run_eq_translated (kind : JKind) (e : String) (L R : Tab Cell) (lon ron : OnArg)
    (coreT : Bool → Bool → List (List Nat) → List (List Nat) → Except Err (List Pair))
    (hcore : ∀ lk rk, coreT (chkRight kind e) (chkLeft kind e) lk rk = joinCore kind e lk rk) :
    run kind e L R lon ron =
      match joinHeadT kind jkOps L R lon ron e with
      | .error er => .error er
      | .ok h =>
        match coreT h.check_right_unique h.check_left_unique (keyTuples L.nrows h.left_keys) (keyTuples R.nrows h.right_keys) with
        | .error er => .error er
        | .ok ps => .ok (assemble Cell.none (·.tag) kind L R ps) := by
  rw [joinHead_eq]
  unfold run headModel
  split
  · rfl
  · cases validateKeys L R lon ron with
    | error er => rfl
    | ok kp => simp only [headOf, hcore]; rfl

open Serif.Gen.TR in
theorem inner_join_translated (e : String) (L R : Tab Cell) (lon ron : OnArg) :
    run .inner e L R lon ron =
      match joinHeadTInner jkOps L R lon ron e with
      | .error er => .error er
      | .ok h =>
        match joinCoreTInner h.check_right_unique h.check_left_unique (keyTuples L.nrows h.left_keys) (keyTuples R.nrows h.right_keys) with
        | .error er => .error er
        | .ok ps => .ok (assemble Cell.none (·.tag) .inner L R ps) :=
  run_eq_translated .inner e L R lon ron _ (joinCoreInner_eq e)

open Serif.Gen.TR in
theorem join_translated (e : String) (L R : Tab Cell) (lon ron : OnArg) :
    run .left e L R lon ron =
      match joinHeadTLeft jkOps L R lon ron e with
      | .error er => .error er
      | .ok h =>
        match joinCoreTLeft h.check_right_unique h.check_left_unique (keyTuples L.nrows h.left_keys) (keyTuples R.nrows h.right_keys) with
        | .error er => .error er
        | .ok ps => .ok (assemble Cell.none (·.tag) .left L R ps) :=
  run_eq_translated .left e L R lon ron _ (joinCoreLeft_eq e)

open Serif.Gen.TR in
theorem full_join_translated (e : String) (L R : Tab Cell) (lon ron : OnArg) :
    run .full e L R lon ron =
      match joinHeadTFull jkOps L R lon ron e with
      | .error er => .error er
      | .ok h =>
        match joinCoreTFull h.check_right_unique h.check_left_unique (keyTuples L.nrows h.left_keys) (keyTuples R.nrows h.right_keys) with
        | .error er => .error er
        | .ok ps => .ok (assemble Cell.none (·.tag) .full L R ps) :=
  run_eq_translated .full e L R lon ron _ (joinCoreFull_eq e)

section hash
variable {α β : Type}

/-- the loop in the handler of `_validate_key_tuple_hashable` either finds nothing or raises SerifTypeError -/
theorem hashLoop_eq (hash_ok : α → Bool) (ps : List (α × β)) (n : Nat) :
    (enumerateFrom n ps).foldlM (fun (_ : Unit) p => hashComponentStepT hash_ok p.1 p.2.1 p.2.2) () =
      if ps.all (fun p => hash_ok p.1) then .ok () else .error .type := by
  induction ps generalizing n with
  | nil => rfl
  | cons p ps ih =>
    rw [enumerateFrom, List.foldlM_cons, List.all_cons, hashComponentStepT]
    cases hash_ok p.1
    · rfl
    · exact ih (n + 1)

/-- `Table._validate_key_tuple_hashable`, translated: it returns iff `hash(key_tuple)` returns; otherwise it raises
    SerifTypeError — from inside the loop or after it, the class is the same -/
theorem hashGuard_eq (hash_tuple_ok : List α → Bool) (hash_ok : α → Bool) (key : List α) (cols : List β) :
    validateKeyTupleHashableT hash_tuple_ok hash_ok key cols = if hash_tuple_ok key then .ok () else .error .type := by
  unfold validateKeyTupleHashableT enumerate
  rw [hashLoop_eq]
  cases hash_tuple_ok key
  · simp only [Bool.false_eq_true, if_false]
    by_cases h : ((List.zip key cols).all fun p => hash_ok p.1) = true <;> simp [h]
  · rfl

theorem hashGuard_ok_iff (hash_tuple_ok : List α → Bool) (hash_ok : α → Bool) (key : List α) (cols : List β) :
    validateKeyTupleHashableT hash_tuple_ok hash_ok key cols = .ok () ↔ hash_tuple_ok key = true := by
  rw [hashGuard_eq]
  cases hash_tuple_ok key <;> simp

/-- the guarded calls in the loops, `if validate_hashable: Table._validate_key_tuple_hashable(key, keys, row)`, translated: they
    raise (SerifTypeError) exactly when the flag is on and the key tuple cannot be hashed -/
theorem hashGuardT_eq (hash_tuple_ok : List α → Bool) (hash_ok : α → Bool) (validate_hashable : Bool) (key : List α) (cols : List β) :
    (hashGuardTInner hash_tuple_ok hash_ok validate_hashable key cols
        = if validate_hashable && !hash_tuple_ok key then .error .type else .ok ()) ∧
    (hashGuardTLeft hash_tuple_ok hash_ok validate_hashable key cols
        = if validate_hashable && !hash_tuple_ok key then .error .type else .ok ()) ∧
    (hashGuardTFull hash_tuple_ok hash_ok validate_hashable key cols
        = if validate_hashable && !hash_tuple_ok key then .error .type else .ok ()) := by
  unfold hashGuardTInner hashGuardTLeft hashGuardTFull
  rw [hashGuard_eq]
  cases validate_hashable <;> cases hash_tuple_ok key <;> exact ⟨rfl, rfl, rfl⟩

/-- where every key tuple can be hashed (the model's domain: its cells are values with an equality class, all hashable) the
    guarded calls do nothing, whatever `validate_hashable` is — which is why `Join.run` has no counterpart of them -/
theorem hashGuard_noop (hash_tuple_ok : List α → Bool) (hash_ok : α → Bool) (validate_hashable : Bool) (key : List α) (cols : List β)
    (h : hash_tuple_ok key = true) :
    hashGuardTInner hash_tuple_ok hash_ok validate_hashable key cols = .ok () ∧
    hashGuardTLeft hash_tuple_ok hash_ok validate_hashable key cols = .ok () ∧
    hashGuardTFull hash_tuple_ok hash_ok validate_hashable key cols = .ok () := by
  have hc := hashGuardT_eq hash_tuple_ok hash_ok validate_hashable key cols
  rw [hc.1, hc.2.1, hc.2.2, h]
  cases validate_hashable <;> exact ⟨rfl, rfl, rfl⟩

end hash

theorem validate_hashable_false_iff (kind : JKind) (e : String) (kp : List (List Cell × List Cell)) :
    (headOf kind e kp).validate_hashable = false ↔
      ∀ c ∈ kp.map (·.1) ++ kp.map (·.2), ∃ d, keyDType c = some d ∧ d.kind ≠ Kind.object := by
  simp only [headOf, List.any_eq_false]
  constructor
  · intro h c hc
    have := h c hc
    cases hd : keyDType c with
    | none => simp [hd] at this
    | some d => exact ⟨d, rfl, by simpa [hd] using this⟩
  · intro h c hc
    obtain ⟨d, hd, hk⟩ := h c hc
    simp [hd, hk]

section examples

def ci (n : Nat) : Cell := { tag := .ty .int, eq := n, uid := n }
def cs (n : Nat) : Cell := { tag := .ty .str, eq := n, uid := n }
def cf (n : Nat) : Cell := { tag := .ty .float, eq := n, uid := n }

/-- left table: id (int), name (str); right table: id (int), score (float), tag (all None) -/
def exL : Tab Cell := { names := [some "id", some "name"], cols := [[ci 1, ci 2, ci 2], [cs 10, cs 11, cs 12]] }
def exR : Tab Cell := { names := [some "id", some "score", some "tag"], cols := [[ci 2, ci 3], [cf 20, cf 21], [Cell.none, Cell.none]] }

-- a single name on both sides: one pair of int columns
example : validateJoinKeysT jkOps exL exR (.single (.name "id")) (.single (.name "id"))
    = .ok [([ci 1, ci 2, ci 2], [ci 2, ci 3])] := by decide +kernel
-- a list against a single spec of the same length; a Vector of the right length as key
example : validateJoinKeysT jkOps exL exR (.list [.vec [ci 7, ci 8, ci 9]]) (.single (.name "id"))
    = .ok [([ci 7, ci 8, ci 9], [ci 2, ci 3])] := by decide +kernel
-- missing column: SerifKeyError; a non-spec: SerifTypeError; a tuple / int argument, empty lists, unequal lengths: SerifValueError
example : validateJoinKeysT jkOps exL exR (.single (.name "nope")) (.single (.name "id")) = .error .key := by decide +kernel
example : validateJoinKeysT jkOps exL exR (.list [.bad]) (.single (.name "id")) = .error .type := by decide
example : validateJoinKeysT jkOps exL exR .other (.single (.name "id")) = .error .value := by decide
example : validateJoinKeysT jkOps exL exR (.list []) (.list []) = .error .value := by decide
example : validateJoinKeysT jkOps exL exR (.list [.name "id", .name "name"]) (.list [.name "id"]) = .error .value := by decide
-- a Vector of the wrong length: SerifValueError; float key: SerifTypeError; int against str: SerifTypeError
example : validateJoinKeysT jkOps exL exR (.single (.vec [ci 1])) (.single (.name "id")) = .error .value := by decide
example : validateJoinKeysT jkOps exL exR (.single (.name "id")) (.single (.name "score")) = .error .type := by decide +kernel
example : validateJoinKeysT jkOps exL exR (.single (.name "name")) (.single (.name "id")) = .error .type := by decide +kernel
-- the second pair is checked after the first: the error of the second pair shows
example : validateJoinKeysT jkOps exL exR (.list [.name "id", .name "name"]) (.list [.name "id", .name "id"]) = .error .type := by decide +kernel
-- an all-None column has the schema (object, nullable): refused against int (documented), accepted against itself
example : validateJoinKeysT jkOps exL exR (.single (.name "id")) (.single (.name "tag")) = .error .type := by decide +kernel
example : (validateJoinKeysT jkOps exR exR (.single (.name "tag")) (.single (.name "tag"))).toBool = true := by decide +kernel

-- the heads: flags per expectation, the hashability flag, refusal of an unknown expectation before the keys are looked at
example : joinHeadTLeft jkOps exL exR (.single (.name "id")) (.single (.name "id")) "many_to_one"
    = .ok { pairs := [([ci 1, ci 2, ci 2], [ci 2, ci 3])], left_keys := [[ci 1, ci 2, ci 2]], right_keys := [[ci 2, ci 3]],
            validate_hashable := false, check_right_unique := true, check_left_unique := false } := by decide +kernel
example : (joinHeadTFull jkOps exR exR (.single (.name "tag")) (.single (.name "tag")) "one_to_many").map
    (fun h => (h.validate_hashable, h.check_right_unique, h.check_left_unique)) = .ok (true, false, true) := by decide +kernel
example : joinHeadTInner jkOps exL exR .other .other "one_to_on" = .error .value := by decide +kernel
example : joinHeadTInner jkOps exL exR (.single (.name "nope")) (.single (.name "id")) "one_to_one" = .error .key := by decide +kernel

-- the hashability guard on key tuples of naturals where odd numbers stand for unhashable values
example : validateKeyTupleHashableT (fun t => t.all (· % 2 == 0)) (· % 2 == 0) [2, 4] ["a", "b"] = .ok () := by decide
example : validateKeyTupleHashableT (fun t => t.all (· % 2 == 0)) (· % 2 == 0) [2, 3] ["a", "b"] = .error .type := by decide
-- the tuple cannot be hashed although every component can (the loop finds nothing): still SerifTypeError
example : validateKeyTupleHashableT (fun _ => false) (fun (_ : Nat) => true) [2, 4] ["a", "b"] = .error .type := by decide

-- the guarded call: off, on with a hashable tuple, on with an unhashable one
example : hashGuardTLeft (fun t => t.all (· % 2 == 0)) (· % 2 == 0) false [2, 3] ["a", "b"] = .ok () := by decide
example : hashGuardTLeft (fun t => t.all (· % 2 == 0)) (· % 2 == 0) true [2, 4] ["a", "b"] = .ok () := by decide
example : hashGuardTLeft (fun t => t.all (· % 2 == 0)) (· % 2 == 0) true [2, 3] ["a", "b"] = .error .type := by decide

-- the hypothesis of `hashGuard_noop` is satisfiable
example : ∃ (ht : List Nat → Bool) (k : List Nat), ht k = true := ⟨fun _ => true, [1], rfl⟩

end examples

end Serif.Tie
