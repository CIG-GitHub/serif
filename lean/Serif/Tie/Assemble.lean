/-
  Translation tie for what happens around the hash loops of the joins (C09, C10; the same code serves C11) and of group-by (C13; the
  aggregate pieces serve C12): the pieces of `Serif/Gen/TranslatedAssemble.lean` (harness/tr/assemble.py, regenerated from the source
  on every run) are proved equal to the model — `Join.keyTuples`, `Join.resultCols`, `Join.assemble`; `Group.rowKeys`,
  `Group.computeGroupValues`, `Group.expandToRows`, `Group.windowCol`, `Group.aggCol`, the key-column part of
  `Group.windowCells` / `Group.aggregateCells` and the names `Group.uniquifyAll` hands out — for all inputs.
  Parameters of the translation, instantiated here as the model reads them: `getitem` / `data[i]` (a cell, None out of range:
  `getCell`, `pyListGet`), `nameOf` (`col._name`), `Vector` (the constructor: `mkVec` infers the dtype with `Join.colDType`),
  `len(self)` (`Tab.nrows`), `uniquify` (`Group.uniquify`), `sanitize` / `make_agg_name` and the reducers (arbitrary functions).
  Hypotheses that appear: output pairs have a shape for which the method has a group of appends (`ShapeIn shapesT<Tag>`, proved for
  everything `joinCore` returns: `joinCore_shape`), row indices are in range / key tuples have `len(over)` components (true for
  what `partition` and `rowKeys` produce).  Supplementary (see Serif/Tie/Typing.lean).
-/
import Serif.Gen.TranslatedAssemble
import Serif.Tie.Join
import Serif.Proofs.Join
import Serif.Proofs.Group

namespace Serif.Tie
open Serif Serif.Join Serif.Gen.TA Serif.Gen.TR

section cells
variable {α C V : Type}

private theorem modify_at_length (pre : List (List α)) (m : List α) (rest : List (List α)) (f : List α → List α) :
    (pre ++ m :: rest).modify pre.length f = pre ++ f m :: rest := by
  induction pre with
  | nil => simp [List.modify_cons]
  | cons p ps ih => simp [ih]

/-- `for k, col in enumerate(cols): append_cols[base + k](g(col))` on buffers `h col`, one per column, from buffer `base` on -/
theorem appendCols_fold (g : C → α) (h : C → List α) (cols : List C) (base s : Nat) (pre post : List (List α))
    (hp : pre.length = base + s) :
    (cols.zipIdx s).foldl (fun rd p => pyAppendAt rd (base + p.2) (g p.1)) (pre ++ cols.map h ++ post)
      = pre ++ cols.map (fun c => h c ++ [g c]) ++ post := by
  induction cols generalizing s pre with
  | nil => rfl
  | cons c cs ih =>
    simp only [List.zipIdx_cons, List.foldl_cons, List.map_cons]
    have h1 : pyAppendAt (pre ++ (h c :: cs.map h) ++ post) (base + s) (g c) = (pre ++ [h c ++ [g c]]) ++ cs.map h ++ post := by
      unfold pyAppendAt
      rw [List.append_assoc, List.cons_append, ← hp, modify_at_length]
      simp
    rw [h1, ih (s + 1) (pre ++ [h c ++ [g c]]) (by simp [hp]; omega)]
    simp

end cells

section buffers
variable {α C V : Type} (pad : α) (cells : C → List α)

/-- the parameter `getitem` of the translation instantiated as the model reads a cell: `col[i]`, None out of range -/
def getCell (c : C) (i : Nat) : α := (cells c)[i]?.getD pad

/-- the buffers of the columns `cs` after the output pairs `acc`, each pair read on the side `side` (`Join.resultCols` is these
    for the left columns and `·.1` followed by these for the right columns and `·.2`) -/
def bufs (cs : List C) (side : Pair → Option Nat) (acc : List Pair) : List (List α) :=
  cs.map (fun c => acc.map (fun q => cellAt pad (cells c) (side q)))

/-- one loop of a group of appends, over the buffers of one side's columns: `for k, col in enumerate(cols): append_cols[idx k](col[i])`
    where the pair `x` has row `i` on that side, `for k in range(n): append_cols[idx k](None)` where it has none.  The index is a
    variable `idx` so that the statement matches the generated text as written: `k` in the left loops, `base + k` in the right ones -/
theorem sideLoop (cs : List C) (side : Pair → Option Nat) (acc : List Pair) (x : Pair)
    (pre post : List (List α)) (idx : Nat → Nat) (hidx : ∀ k, idx k = pre.length + k) :
    (match side x with
      | some i => cs.zipIdx.foldl (fun (rd : List (List α)) (p : C × Nat) => pyAppendAt rd (idx p.2) (getCell pad cells p.1 i))
      | none => (List.range cs.length).foldl (fun (rd : List (List α)) k => pyAppendAt rd (idx k) pad))
        (pre ++ bufs pad cells cs side acc ++ post)
      = pre ++ bufs pad cells cs side (acc ++ [x]) ++ post := by
  obtain rfl : idx = (pre.length + ·) := funext hidx
  cases hx : side x with
  | some i =>
    dsimp only
    rw [bufs,
      appendCols_fold (g := fun c => getCell pad cells c i) (cols := cs) (base := pre.length) (s := 0) (hp := rfl)]
    simp only [bufs, List.map_append, List.map_cons, List.map_nil, hx, cellAt, getCell]
  | none =>
    dsimp only
    rw [List.range_eq_range', ← List.zipIdx_map_snd 0 cs, List.foldl_map, bufs,
      appendCols_fold (g := fun _ => pad) (cols := cs) (base := pre.length) (s := 0) (hp := rfl)]
    simp only [bufs, List.map_append, List.map_cons, List.map_nil, hx, cellAt]

/-- the model's tables, from the lists of columns the translation works on (`nameOf` = `col._name`, `cells` = the values) -/
def tabOf (nameOf : C → Option String) (cs : List C) : Tab α := { names := cs.map nameOf, cols := cs.map cells }

private theorem init_length (n : Nat) : ((List.range n).map (fun _ => ([] : List α))).length = n := by simp

theorem resultCols_eq (nameOf : C → Option String) (lc rc : List C) (acc : List Pair) :
    resultCols pad (tabOf cells nameOf lc) (tabOf cells nameOf rc) acc
      = bufs pad cells lc (·.1) acc ++ bufs pad cells rc (·.2) acc := by
  simp [resultCols, tabOf, bufs, List.map_map, Function.comp_def]

/-- a group of appends (left cells | None, then right cells | None) takes the buffers after `acc` to the buffers after `acc ++ [p]`;
    every `emitRowT<Tag><k>` of the generated file is this for one shape of `p`, as it stands -/
theorem emitRow_eq (nameOf : C → Option String) (lc rc : List C) (acc : List Pair) (p : Pair) :
    (match p.2 with
      | some j => rc.zipIdx.foldl (fun (rd : List (List α)) (q : C × Nat) => pyAppendAt rd (lc.length + q.2) (getCell pad cells q.1 j))
      | none => (List.range rc.length).foldl (fun (rd : List (List α)) k => pyAppendAt rd (lc.length + k) pad))
      ((match p.1 with
        | some i => lc.zipIdx.foldl (fun (rd : List (List α)) (q : C × Nat) => pyAppendAt rd q.2 (getCell pad cells q.1 i))
        | none => (List.range lc.length).foldl (fun (rd : List (List α)) k => pyAppendAt rd k pad))
        (resultCols pad (tabOf cells nameOf lc) (tabOf cells nameOf rc) acc))
      = resultCols pad (tabOf cells nameOf lc) (tabOf cells nameOf rc) (acc ++ [p]) := by
  have hL := sideLoop pad cells lc (side := (·.1)) acc p (pre := []) (post := bufs pad cells rc (·.2) acc)
    (idx := id) (hidx := fun k => (Nat.zero_add k).symm)
  have hR := sideLoop pad cells rc (side := (·.2)) acc p (pre := bufs pad cells lc (·.1) (acc ++ [p])) (post := [])
    (idx := (lc.length + ·)) (hidx := by simp [bufs])
  simp only [List.nil_append, List.append_nil, id] at hL hR
  rw [resultCols_eq, resultCols_eq, hL, hR]

/-- a pair has one of the shapes for which the method has a group of appends (`shapesT<Tag>` is generated from the source) -/
def ShapeIn (shapes : List (Bool × Bool)) (p : Pair) : Prop := (p.1.isSome, p.2.isSome) ∈ shapes

/-- every output pair of `inner_join` runs a group of appends that appends the model's row -/
theorem emitPairInner_eq (nameOf : C → Option String) (lc rc : List C) (acc : List Pair) (p : Pair) (hp : ShapeIn shapesTInner p) :
    emitPairTInner pad (getCell pad cells) lc rc (resultCols pad (tabOf cells nameOf lc) (tabOf cells nameOf rc) acc) p
      = resultCols pad (tabOf cells nameOf lc) (tabOf cells nameOf rc) (acc ++ [p]) := by
  obtain ⟨_ | i, _ | j⟩ := p <;> simp [ShapeIn, shapesTInner] at hp
  exact emitRow_eq pad cells nameOf lc rc acc (some i, some j)

theorem emitPairLeft_eq (nameOf : C → Option String) (lc rc : List C) (acc : List Pair) (p : Pair) (hp : ShapeIn shapesTLeft p) :
    emitPairTLeft pad (getCell pad cells) lc rc (resultCols pad (tabOf cells nameOf lc) (tabOf cells nameOf rc) acc) p
      = resultCols pad (tabOf cells nameOf lc) (tabOf cells nameOf rc) (acc ++ [p]) := by
  obtain ⟨_ | i, _ | j⟩ := p <;> simp [ShapeIn, shapesTLeft] at hp
  · exact emitRow_eq pad cells nameOf lc rc acc (some i, none)
  · exact emitRow_eq pad cells nameOf lc rc acc (some i, some j)

theorem emitPairFull_eq (nameOf : C → Option String) (lc rc : List C) (acc : List Pair) (p : Pair) (hp : ShapeIn shapesTFull p) :
    emitPairTFull pad (getCell pad cells) lc rc (resultCols pad (tabOf cells nameOf lc) (tabOf cells nameOf rc) acc) p
      = resultCols pad (tabOf cells nameOf lc) (tabOf cells nameOf rc) (acc ++ [p]) := by
  obtain ⟨_ | i, _ | j⟩ := p <;> simp [ShapeIn, shapesTFull] at hp
  · exact emitRow_eq pad cells nameOf lc rc acc (none, some j)
  · exact emitRow_eq pad cells nameOf lc rc acc (some i, none)
  · exact emitRow_eq pad cells nameOf lc rc acc (some i, some j)

end buffers

section finish
variable {α C : Type} (pad : α) (cells : C → List α) (nameOf : C → Option String) (tagOf : α → Tag)

/-- what the model observes of a result column: name, values, inferred dtype -/
abbrev VecOut (α : Type) := Option String × List α × Option DType

/-- the parameter `Vector` of the translation: `Vector(data, name=name)`, its dtype inferred as the model does (`Join.colDType`) -/
def mkVec (data : List α) (name : Option String) : VecOut α := (name, data, colDType tagOf data)

/-- `Table(result_cols)` as the model's `Out` (`Table(())` = no columns) -/
def outOf (vs : List (VecOut α)) : Out α := { names := vs.map (·.1), cols := vs.map (·.2.1), dtypes := vs.map (·.2.2) }

/-- `for k, orig in enumerate(cols): result_cols.append(Vector(result_data[base + k], name=orig._name))` wraps the buffers
    `h orig`, `base` = the number of buffers before them -/
theorem wrap_fold {V : Type} (mk : List α → Option String → V) (h : C → List α) (cs : List C)
    (pre post : List (List α)) (acc : List V) :
    cs.zipIdx.foldl (fun acc p => acc ++ [mk (pyBuf (pre ++ cs.map h ++ post) (pre.length + p.2)) (nameOf p.1)]) acc
      = acc ++ cs.map (fun c => mk (h c) (nameOf c)) := by
  rw [List.foldl_append_singleton, ← List.map_zipIdx_fst (fun c => mk (h c) (nameOf c)) cs 0]
  congr 1
  apply List.map_congr_left
  rintro ⟨c, k⟩ hp
  have hk : cs[k]? = some c := List.mk_mem_zipIdx_iff_getElem?.mp hp
  have hlt : k < cs.length := (List.getElem?_eq_some_iff.mp hk).1
  -- buffer `pre.length + k` is the `k`-th of the middle block
  rw [pyBuf, List.getElem?_append_left (by simp; omega), List.getElem?_append_right (Nat.le_add_right _ _),
    Nat.add_sub_cancel_left, List.getElem?_map, hk]
  rfl

theorem wrap_eq {V : Type} (mk : List α → Option String → V) (lc rc : List C) (hl hr : C → List α) :
    rc.zipIdx.foldl (fun acc p => acc ++ [mk (pyBuf (lc.map hl ++ rc.map hr) (lc.length + p.2)) (nameOf p.1)])
      (lc.zipIdx.foldl (fun acc p => acc ++ [mk (pyBuf (lc.map hl ++ rc.map hr) p.2) (nameOf p.1)]) [])
    = lc.map (fun c => mk (hl c) (nameOf c)) ++ rc.map (fun c => mk (hr c) (nameOf c)) := by
  have h1 := wrap_fold nameOf mk hl lc (pre := []) (post := rc.map hr) (acc := [])
  have h2 := wrap_fold nameOf mk hr rc (pre := lc.map hl) (post := [])
  simp only [List.nil_append, List.length_nil, Nat.zero_add, List.append_nil, List.length_map] at h1 h2
  rw [h1, h2]

private theorem len0 : (fun (col : List α) => col.length == 0) = List.isEmpty := by
  funext col
  cases col <;> rfl

/-- the three methods differ in their empty-result test only: `c`, with `hc` saying it is the model's `shortcut` -/
theorem finish_eq (kind : JKind) (lc rc : List C) (ps : List Pair) {c : Bool}
    (hc : c = shortcut kind (tabOf cells nameOf lc).nrows (tabOf cells nameOf rc).nrows
      (resultCols pad (tabOf cells nameOf lc) (tabOf cells nameOf rc) ps)) :
    outOf (if c then []
      else rc.zipIdx.foldl (fun acc p => acc ++ [mkVec tagOf
          (pyBuf (resultCols pad (tabOf cells nameOf lc) (tabOf cells nameOf rc) ps) (lc.length + p.2)) (nameOf p.1)])
        (lc.zipIdx.foldl (fun acc p => acc ++ [mkVec tagOf
          (pyBuf (resultCols pad (tabOf cells nameOf lc) (tabOf cells nameOf rc) ps) p.2) (nameOf p.1)]) []))
      = assemble pad tagOf kind (tabOf cells nameOf lc) (tabOf cells nameOf rc) ps := by
  subst hc
  simp only [assemble]
  split
  · rfl
  · rw [resultCols_eq, bufs, bufs, wrap_eq]
    simp [outOf, mkVec, tabOf, List.map_map, Function.comp_def]

/-- a method after its loops decided the output pairs `ps`: initial buffers, one group of appends per pair (`emitT`), empty-result
    test and wrapping (`finishT`) is the model's `Join.assemble` -/
theorem assembleT_eq (kind : JKind) (lc rc : List C) (shapes : List (Bool × Bool))
    (emitT : List (List α) → Pair → List (List α)) (finishT : List (List α) → List (VecOut α))
    (hemit : ∀ acc p, ShapeIn shapes p → emitT (resultCols pad (tabOf cells nameOf lc) (tabOf cells nameOf rc) acc) p
      = resultCols pad (tabOf cells nameOf lc) (tabOf cells nameOf rc) (acc ++ [p]))
    (hfinish : ∀ ps, outOf (finishT (resultCols pad (tabOf cells nameOf lc) (tabOf cells nameOf rc) ps))
      = assemble pad tagOf kind (tabOf cells nameOf lc) (tabOf cells nameOf rc) ps)
    (ps : List Pair) (hps : ∀ p ∈ ps, ShapeIn shapes p) :
    outOf (finishT (ps.foldl emitT ((List.range (lc.length + rc.length)).map (fun _ => []))))
      = assemble pad tagOf kind (tabOf cells nameOf lc) (tabOf cells nameOf rc) ps := by
  -- invariant of the loop over the pairs: the buffers after `acc` are `resultCols … acc`; `h0` is it for `[]`
  have h : ∀ acc, ps.foldl emitT (resultCols pad (tabOf cells nameOf lc) (tabOf cells nameOf rc) acc)
      = resultCols pad (tabOf cells nameOf lc) (tabOf cells nameOf rc) (acc ++ ps) := by
    induction ps with
    | nil => simp
    | cons p ps ih =>
      intro acc
      rw [List.foldl_cons, hemit acc p (hps p (by simp)), ih (fun q hq => hps q (by simp [hq])), List.append_assoc]
      rfl
  have h0 : (List.range (lc.length + rc.length)).map (fun _ => ([] : List α))
      = resultCols pad (tabOf cells nameOf lc) (tabOf cells nameOf rc) [] := by
    simp [resultCols, tabOf, Function.comp_def, List.map_const', List.replicate_append_replicate]
  rw [h0, h [], List.nil_append]
  exact hfinish ps

end finish

section keys
variable {α C : Type}

theorem leftKeysInner_eq (pairs : List (C × C)) : leftKeysTInner pairs = pairs.map (·.1) := rfl
theorem rightKeysInner_eq (pairs : List (C × C)) : rightKeysTInner pairs = pairs.map (·.2) := rfl
theorem leftKeysLeft_eq (pairs : List (C × C)) : leftKeysTLeft pairs = pairs.map (·.1) := rfl
theorem rightKeysLeft_eq (pairs : List (C × C)) : rightKeysTLeft pairs = pairs.map (·.2) := rfl
theorem leftKeysFull_eq (pairs : List (C × C)) : leftKeysTFull pairs = pairs.map (·.1) := rfl
theorem rightKeysFull_eq (pairs : List (C × C)) : rightKeysTFull pairs = pairs.map (·.2) := rfl

/-- the model's `keyTuples` (components seen through their equality class) from the per-row key of the source -/
private theorem keyTuples_of (keyT : (List Cell → Nat → Cell) → List (List Cell) → Nat → List Cell)
    (h : ∀ g cols i, keyT g cols i = cols.map (fun col => g col i)) (n : Nat) (cols : List (List Cell)) :
    ((List.range n).map (fun i => keyT (getCell Cell.none id) cols i)).map (·.map Cell.eq) = keyTuples n cols := by
  simp [keyTuples, h, getCell, Function.comp_def]

/-- `key = tuple(col[row_idx] for col in right_keys)` for every row of the build loop, and the same for the probe loop, are the
    key lists the model's `Join.run` feeds to `joinCore` (`kp` = the validated key pairs) -/
theorem buildKeysInner_eq (n : Nat) (kp : List (List Cell × List Cell)) :
    (buildKeysTInner (getCell Cell.none id) (rightKeysTInner kp) n).map (·.map Cell.eq) = keyTuples n (kp.map (·.2)) :=
  keyTuples_of buildKeyTInner (fun _ _ _ => rfl) n _
theorem probeKeysInner_eq (n : Nat) (kp : List (List Cell × List Cell)) :
    (probeKeysTInner (getCell Cell.none id) (leftKeysTInner kp) n).map (·.map Cell.eq) = keyTuples n (kp.map (·.1)) :=
  keyTuples_of probeKeyTInner (fun _ _ _ => rfl) n _
theorem buildKeysLeft_eq (n : Nat) (kp : List (List Cell × List Cell)) :
    (buildKeysTLeft (getCell Cell.none id) (rightKeysTLeft kp) n).map (·.map Cell.eq) = keyTuples n (kp.map (·.2)) :=
  keyTuples_of buildKeyTLeft (fun _ _ _ => rfl) n _
theorem probeKeysLeft_eq (n : Nat) (kp : List (List Cell × List Cell)) :
    (probeKeysTLeft (getCell Cell.none id) (leftKeysTLeft kp) n).map (·.map Cell.eq) = keyTuples n (kp.map (·.1)) :=
  keyTuples_of probeKeyTLeft (fun _ _ _ => rfl) n _
theorem buildKeysFull_eq (n : Nat) (kp : List (List Cell × List Cell)) :
    (buildKeysTFull (getCell Cell.none id) (rightKeysTFull kp) n).map (·.map Cell.eq) = keyTuples n (kp.map (·.2)) :=
  keyTuples_of buildKeyTFull (fun _ _ _ => rfl) n _
theorem probeKeysFull_eq (n : Nat) (kp : List (List Cell × List Cell)) :
    (probeKeysTFull (getCell Cell.none id) (leftKeysTFull kp) n).map (·.map Cell.eq) = keyTuples n (kp.map (·.1)) :=
  keyTuples_of probeKeyTFull (fun _ _ _ => rfl) n _

/-- the source computes the key inside the loop (`for i in range(n): key = ...; <body>`); the translated loops of
    `Serif/Gen/TranslatedRel.lean` run over the list of keys with their positions: the same thing -/
theorem rangeLoop_eq_zipIdx {σ κ : Type} (step : σ → κ → Nat → σ) (keyOf : Nat → κ) (n s : Nat) (st : σ) :
    (List.range' s n).foldl (fun st i => step st (keyOf i) i) st
      = (((List.range' s n).map keyOf).zipIdx s).foldl (fun st p => step st p.1 p.2) st := by
  induction n generalizing s st with
  | zero => rfl
  | succ n ih => simp only [List.range'_succ, List.map_cons, List.zipIdx_cons, List.foldl_cons]; exact ih _ _

theorem rangeLoopM_eq_zipIdx {σ κ : Type} (step : σ → κ → Nat → Except Err σ) (keyOf : Nat → κ) (n s : Nat) (st : σ) :
    (List.range' s n).foldlM (fun st i => step st (keyOf i) i) st
      = (((List.range' s n).map keyOf).zipIdx s).foldlM (fun st p => step st p.1 p.2) st := by
  induction n generalizing s st with
  | zero => rfl
  | succ n ih =>
    simp only [List.range'_succ, List.map_cons, List.zipIdx_cons, List.foldlM_cons]
    cases step st (keyOf s) s with
    | error e => rfl
    | ok st' => exact ih _ _

end keys

section whole
variable {α C K : Type} [DecidableEq K] (pad : α) (cells : C → List α) (nameOf : C → Option String) (tagOf : α → Tag)

/-- a method has a group of appends for every shape of pair its loops can emit -/
theorem joinCore_shape {kind : JKind} {e : String} {lk rk : List K} {ps : List Pair}
    (h : joinCore kind e lk rk = .ok ps) {shapes : List (Bool × Bool)} (matched : (true, true) ∈ shapes)
    (leftOnly : kind ≠ .inner → (true, false) ∈ shapes) (rightOnly : kind = .full → (false, true) ∈ shapes) :
    ∀ p ∈ ps, ShapeIn shapes p := by
  rw [joinCore_ok kind e lk rk ps h]
  intro p hp
  unfold ShapeIn
  rcases specPairs_shape kind lk rk p hp with ⟨ha, hb | hk⟩ | ⟨hk, ha, hb⟩
  · rw [ha, hb]
    exact matched
  · rw [ha]
    cases p.2.isSome
    · exact leftOnly hk
    · exact matched
  · rw [ha, hb]
    exact rightOnly hk

/-- two functions that agree on what `x` returns (if it returns) give the same `x.map` -/
private theorem map_congr_ok {ε σ τ : Type} {x : Except ε σ} {f g : σ → τ} (h : ∀ a, x = .ok a → f a = g a) :
    x.map f = x.map g := by
  cases x with
  | error e => rfl
  | ok a => exact congrArg Except.ok (h a rfl)

/-- `inner_join` after key validation, wholly from translated pieces: the translated loops (`joinCoreTInner`) decide the output pairs,
    the translated assembly turns them into the result — equal to the model's `joinCore` followed by `assemble` -/
theorem innerJoin_translated (e : String) (lkeys rkeys : List K) (lc rc : List C) (nL nR : Nat) :
    (joinCoreTInner (chkRight .inner e) (chkLeft .inner e) lkeys rkeys).map
        (fun ps => outOf (assembleTInner pad (getCell pad cells) nameOf (mkVec tagOf) lc rc nL nR ps))
      = (joinCore .inner e lkeys rkeys).map (assemble pad tagOf .inner (tabOf cells nameOf lc) (tabOf cells nameOf rc)) := by
  rw [joinCoreInner_eq]
  refine map_congr_ok fun ps h => ?_
  exact assembleT_eq pad cells nameOf tagOf .inner lc rc
    (shapes := shapesTInner)
    (emitT := emitPairTInner pad (getCell pad cells) lc rc)
    (finishT := finishTInner nameOf (mkVec tagOf) lc rc nL nR)
    (hemit := emitPairInner_eq pad cells nameOf lc rc)
    (hfinish := fun ps => finish_eq pad cells nameOf tagOf .inner lc rc ps (hc := by rw [len0]; rfl))
    ps (hps := joinCore_shape h (matched := by decide) (leftOnly := by decide) (rightOnly := by decide))

theorem leftJoin_translated (e : String) (lkeys rkeys : List K) (lc rc : List C) (nR : Nat) :
    (joinCoreTLeft (chkRight .left e) (chkLeft .left e) lkeys rkeys).map
        (fun ps => outOf (assembleTLeft pad (getCell pad cells) nameOf (mkVec tagOf) lc rc (tabOf cells nameOf lc).nrows nR ps))
      = (joinCore .left e lkeys rkeys).map (assemble pad tagOf .left (tabOf cells nameOf lc) (tabOf cells nameOf rc)) := by
  rw [joinCoreLeft_eq]
  refine map_congr_ok fun ps h => ?_
  exact assembleT_eq pad cells nameOf tagOf .left lc rc
    (shapes := shapesTLeft)
    (emitT := emitPairTLeft pad (getCell pad cells) lc rc)
    (finishT := finishTLeft nameOf (mkVec tagOf) lc rc (tabOf cells nameOf lc).nrows nR)
    (hemit := emitPairLeft_eq pad cells nameOf lc rc)
    (hfinish := fun ps => finish_eq pad cells nameOf tagOf .left lc rc ps (hc := rfl))
    ps (hps := joinCore_shape h (matched := by decide) (leftOnly := by decide) (rightOnly := by decide))

theorem fullJoin_translated (e : String) (lkeys rkeys : List K) (lc rc : List C) :
    (joinCoreTFull (chkRight .full e) (chkLeft .full e) lkeys rkeys).map
        (fun ps => outOf (assembleTFull pad (getCell pad cells) nameOf (mkVec tagOf) lc rc (tabOf cells nameOf lc).nrows
          (tabOf cells nameOf rc).nrows ps))
      = (joinCore .full e lkeys rkeys).map (assemble pad tagOf .full (tabOf cells nameOf lc) (tabOf cells nameOf rc)) := by
  rw [joinCoreFull_eq]
  refine map_congr_ok fun ps h => ?_
  exact assembleT_eq pad cells nameOf tagOf .full lc rc
    (shapes := shapesTFull)
    (emitT := emitPairTFull pad (getCell pad cells) lc rc)
    (finishT := finishTFull nameOf (mkVec tagOf) lc rc (tabOf cells nameOf lc).nrows (tabOf cells nameOf rc).nrows)
    (hemit := emitPairFull_eq pad cells nameOf lc rc)
    (hfinish := fun ps => finish_eq pad cells nameOf tagOf .full lc rc ps (hc := rfl))
    ps (hps := joinCore_shape h (matched := by decide) (leftOnly := by decide) (rightOnly := by decide))

end whole

section groupby
open Serif.Group
variable {K α β V : Type} [DecidableEq K]

/-- `[data[i] for i in rows]` is the model's `gather` when the row indices are in range (they are: the partition index holds
    row numbers of the table, and the column was checked to have `nrows` cells) -/
theorem gather_eq (pad : α) (data : List α) (rows : List Nat) (h : ∀ i ∈ rows, i < data.length) :
    rows.map (fun i => pyListGet pad data i) = gather data rows :=
  List.map_getD_eq_filterMap (data[·]?) pad rows (fun i hi => by simp [h i hi])

theorem computeGroupValuesWin_eq (pad : α) (data : List α) (groups : Dict K (List Nat)) (f : List α → β)
    (h : ∀ g ∈ groups, ∀ i ∈ g.2, i < data.length) :
    computeGroupValuesTWin pad id groups data f = computeGroupValues data groups f := by
  unfold computeGroupValuesTWin computeGroupValues
  refine List.foldl_congr_mem (fun out g hg => ?_) _
  obtain ⟨k, rows⟩ := g
  show Dict.upsert out k (fun _ => f (rows.map (fun i => pyListGet pad data i))) = _
  rw [gather_eq pad data rows (h _ hg)]

omit [DecidableEq K] in
private theorem mapM_range_items {γ : Type} (keys : List K) (g : K → Res γ) :
    (List.range keys.length).mapM (fun i => (pyListItem keys i).bind g) = keys.mapM g := by
  induction keys with
  | nil => rfl
  | cons k ks ih =>
    rw [List.length_cons, List.range_succ_eq_map, List.mapM_cons, List.mapM_cons, List.mapM_map]
    have : ((fun i => (pyListItem (k :: ks) i).bind g) ∘ Nat.succ) = (fun i => (pyListItem ks i).bind g) := by
      funext i; simp [pyListItem]
    rw [this, ih]
    simp [pyListItem, Except.bind]

private theorem mapM_dictItem (gm : Dict K β) (keys : List K) : keys.mapM (pyDictItem gm) = expandToRows gm keys := by
  induction keys with
  | nil => rfl
  | cons k ks ih =>
    rw [List.mapM_cons, ih, pyDictItem, expandToRows]
    cases Dict.get? gm k with
    | none => rfl
    | some v => cases expandToRows gm ks <;> rfl

/-- `row_keys` = the keys of the rows, `nrows` their number -/
theorem expandToRowsWin_eq (gm : Dict K β) (keys : List K) : expandToRowsTWin keys keys.length gm = expandToRows gm keys := by
  unfold expandToRowsTWin
  rw [mapM_range_items, mapM_dictItem]

private theorem partition_rows_lt (keys : List K) : ∀ g ∈ partition keys, ∀ i ∈ g.2, i < keys.length := by
  intro g hg i hi
  rw [partition_eq] at hg
  obtain ⟨k, _, rfl⟩ := List.mem_map.mp hg
  exact List.mem_range.mp (List.mem_filter.mp hi).1

/-- one built-in column of `window`: `compute_group_values` then `expand_to_rows`, translated, is the model's `windowCol` (what C13
    is proved about); the column is appended under the name `uniquify` hands out -/
theorem windowColWin_eq (pad : α) (data : List α) (keys : List K) (f : List α → β) (hlen : keys.length ≤ data.length)
    (sanitize : List α → String → String) (mk : List β → String → V) (sfx : Nat → String) (suffix : String)
    (rc : List V) (used : List String) :
    windowColTWin pad id sanitize mk (Group.uniquify sfx) (partition keys) keys keys.length data f suffix (rc, used)
      = (windowCol data keys f).map (fun rows =>
          (rc ++ [mk rows (Group.uniquify sfx used (sanitize data suffix)).1], (Group.uniquify sfx used (sanitize data suffix)).2)) := by
  unfold windowColTWin windowCol
  dsimp only
  rw [computeGroupValuesWin_eq pad data (partition keys) f
    (fun g hg i hi => Nat.lt_of_lt_of_le (partition_rows_lt keys g hg i hi) hlen), expandToRowsWin_eq]
  cases expandToRows (computeGroupValues data (partition keys) f) keys <;> rfl

omit [DecidableEq K] in
/-- `aggregate_col` translated: the appended column is the model's `aggCol` (one call of `func` per group, in `group_items` order) -/
theorem aggregateColAgg_eq (pad : α) (data : List α) (groups : Dict K (List Nat)) (f : List α → β)
    (h : ∀ g ∈ groups, ∀ i ∈ g.2, i < data.length)
    (mkName : List α → String → String) (mk : List β → String → V) (sfx : Nat → String) (suffix : String)
    (rc : List V) (used : List String) :
    aggregateColTAgg pad id mkName mk (Group.uniquify sfx) groups data f suffix (rc, used)
      = (rc ++ [mk (aggCol data groups f) (Group.uniquify sfx used (mkName data suffix)).1],
         (Group.uniquify sfx used (mkName data suffix)).2) := by
  unfold aggregateColTAgg aggCol
  have hfold : groups.foldl (fun out (g : K × List Nat) => out ++ [f (g.2.map (fun i => pyListGet pad data i))]) []
      = groups.map (fun g => f (gather data g.2)) := by
    rw [List.foldl_congr_mem (g := fun out g => out ++ [f (gather data g.2)])
      (fun out g hg => by rw [gather_eq pad data g.2 (h g hg)]), List.foldl_append_singleton]
    simp
  exact congrArg (fun out => (rc ++ [mk out (Group.uniquify sfx used (mkName data suffix)).1],
    (Group.uniquify sfx used (mkName data suffix)).2)) hfold

end groupby

section keycols
open Serif.Group
variable {C ρ κ V : Type}

theorem pyOrStr_eq (x : Option String) (d : String) : pyOrStr x d = nameOr x d := rfl

def usedAfter (sfx : Nat → String) (names : List String) (used : List String) : List String :=
  names.foldl (fun u n => (Group.uniquify sfx u n).2) used

theorem uniquify_fold {γ : Type} (sfx : Nat → String) (col : γ → String → V) (nm : γ → String) (l : List γ)
    (acc : List V) (used : List String) :
    l.foldl (fun (st : List V × List String) x =>
        (st.1 ++ [col x (Group.uniquify sfx st.2 (nm x)).1], (Group.uniquify sfx st.2 (nm x)).2)) (acc, used)
      = (acc ++ List.zipWith col l (uniquifyAll sfx (l.map nm) used), usedAfter sfx (l.map nm) used) := by
  induction l generalizing acc used with
  | nil => simp [uniquifyAll, usedAfter]
  | cons x xs ih =>
    simp only [List.foldl_cons, List.map_cons, uniquifyAll, List.zipWith_cons_cons, ih]
    simp [usedAfter]

/-- window: the key columns are the `over` columns themselves (`list(col)`), named `col._name or "key"` made unique — the first
    `len(over)` columns of the model's `window` (`windowCells`: `OutCells.objs c.objs`; names: `uniquifyAll` over `rawNames`) -/
theorem keyColsWin_eq (nameOf : C → Option String) (listOf : C → List ρ) (mk : List ρ → String → V) (sfx : Nat → String)
    (over : List C) (used : List String) :
    keyColsTWin nameOf listOf mk (Group.uniquify sfx) over used
      = (List.zipWith mk (over.map listOf) (uniquifyAll sfx (over.map (fun c => nameOr (nameOf c) "key")) used),
         usedAfter sfx (over.map (fun c => nameOr (nameOf c) "key")) used) := by
  have := uniquify_fold sfx (fun c => mk (listOf c)) (fun c => nameOr (nameOf c) "key") over [] used
  rw [List.nil_append, ← List.zipWith_map_left] at this
  exact this

/-- aggregate: key column `idx` holds component `idx` of every group key, in `group_items` order — the model's
    `groups.filterMap (fun g => g.1[idx]?)` (`aggregateCells`) when every key tuple has `len(over)` components -/
theorem keyColsAgg_eq (pad : κ) (nameOf : C → Option String) (mk : List κ → String → V) (sfx : Nat → String)
    (groups : List (List κ × List Nat)) (over : List C) (hk : ∀ g ∈ groups, g.1.length = over.length) (used : List String) :
    keyColsTAgg pad nameOf mk (Group.uniquify sfx) groups over used
      = (List.zipWith mk ((List.range over.length).map (fun idx => groups.filterMap (fun g => g.1[idx]?)))
            (uniquifyAll sfx (over.map (fun c => nameOr (nameOf c) "key")) used),
         usedAfter sfx (over.map (fun c => nameOr (nameOf c) "key")) used) := by
  have := uniquify_fold sfx (fun (p : C × Nat) => mk (groups.map (fun g => pyListGet pad g.1 p.2)))
    (fun p => nameOr (nameOf p.1) "key") over.zipIdx [] used
  have hcols : over.zipIdx.map (fun p => groups.map (fun g => pyListGet pad g.1 p.2))
      = (List.range over.length).map (fun idx => groups.filterMap (fun g => g.1[idx]?)) := by
    rw [List.map_zipIdx_snd (fun idx => groups.map (fun g => pyListGet pad g.1 idx)), List.range_eq_range']
    apply List.map_congr_left
    intro idx hidx
    exact List.map_getD_eq_filterMap (fun g => g.1[idx]?) pad groups
      (fun g hg => by simpa [hk g hg] using (List.mem_range'_1.mp hidx).2)
  rw [List.nil_append, ← List.zipWith_map_left, hcols, List.map_zipIdx_fst (fun c => nameOr (nameOf c) "key")] at this
  exact this

end keycols

section rowkeys
open Serif.Group
variable {κ : Type}

/-- `tuple(over_data[k][i] for k in range(pk_len))`, the text of both `rowKeyTWin` and `rowKeyTAgg`, where all key columns have a cell `i` -/
private theorem rowKey_form (pad : κ) (over : List (List κ)) (i : Nat) (h : ∀ c ∈ over, i < c.length) :
    (List.range over.length).map (fun k => pyListGet pad (pyListGet [] over k) i) = over.filterMap (·[i]?) := by
  rw [← List.map_getD_eq_filterMap (·[i]?) pad over (fun c hc => by simp [h c hc])]
  apply List.ext_getElem
  · simp
  · intro k h1 h2
    simp at h1
    simp [pyListGet, h1]

/-- `key = tuple(over_data[k][i] for k in range(pk_len))` is row `i` of the model's `rowKeys` (all key columns have a cell `i`) -/
theorem rowKeyWin_eq (pad : κ) (over : List (List κ)) (i : Nat) (h : ∀ c ∈ over, i < c.length) :
    rowKeyTWin pad (overDataTWin id over) over.length i = over.filterMap (·[i]?) := by
  rw [overDataTWin, show over.map (fun c => id c) = over from List.map_id' over]
  exact rowKey_form pad over i h

theorem rowKeyAgg_eq (pad : κ) (over : List (List κ)) (i : Nat) (h : ∀ c ∈ over, i < c.length) :
    rowKeyTAgg pad over over.length i = over.filterMap (·[i]?) := rowKey_form pad over i h

private theorem fill_by_index {γ : Type} (f : Nat → γ) (x : γ) (n k : Nat) (hk : k ≤ n) :
    (List.range k).foldl (fun rk i => rk.set i (f i)) (List.replicate n x) = (List.range k).map f ++ List.replicate (n - k) x := by
  induction k with
  | zero => simp
  | succ k ih =>
    rw [List.range_succ, List.foldl_append, ih (by omega)]
    simp only [List.foldl_cons, List.foldl_nil, List.map_append, List.map_cons, List.map_nil]
    rw [List.set_append_right _ _ (by simp)]
    have hnk : n - k = (n - (k + 1)) + 1 := by omega
    rw [hnk, List.replicate_succ]
    simp

/-- `row_keys = [None] * nrows` filled by `row_keys[i] = key` in the partition loop is the model's `rowKeys` (which `windowCol`
    uses both for the partition index and for `expand_to_rows`) — whatever the placeholder was -/
theorem rowKeysWin_eq (pad : κ) (noneKey : List κ) (over : List (List κ)) (nrows : Nat) (h : ∀ c ∈ over, c.length = nrows) :
    rowKeysTWin pad noneKey (overDataTWin id over) over.length nrows = rowKeys over nrows := by
  unfold rowKeysTWin rowKeys
  show (List.range nrows).foldl (fun rk i => rk.set i (rowKeyTWin pad (overDataTWin id over) over.length i)) (List.replicate nrows noneKey) = _
  rw [fill_by_index (fun i => rowKeyTWin pad (overDataTWin id over) over.length i) noneKey nrows nrows (Nat.le_refl _)]
  simp only [Nat.sub_self, List.replicate_zero, List.append_nil]
  apply List.map_congr_left
  intro i hi
  exact rowKeyWin_eq pad over i (fun c hc => by rw [h c hc]; simpa using hi)

end rowkeys

section examples
open Serif.Group

/-- two small tables as lists of (name, cells) -/
def exL : List (Option String × List Nat) := [(some "k", [1, 2, 1]), (some "a", [10, 20, 30])]
def exR : List (Option String × List Nat) := [(some "k", [2, 3, 2]), (none, [7, 8, 9])]
def exGet (c : Option String × List Nat) (i : Nat) : Nat := c.2[i]?.getD 0

-- full join of keys [1,2,1] / [2,3,2]: padded rows, matched rows, the unmatched right row last (0 plays None)
example : assembleTFull 0 exGet (·.1) (fun d n => (n, d)) exL exR 3 3
      [(some 0, none), (some 1, some 0), (some 1, some 2), (some 2, none), (none, some 1)]
    = [(some "k", [1, 2, 2, 1, 0]), (some "a", [10, 20, 20, 30, 0]), (some "k", [0, 2, 2, 0, 3]), (none, [0, 7, 9, 0, 8])] := by
  decide +kernel

-- inner join: a result without rows is `Table(())`; with rows, left columns then right columns
example : assembleTInner 0 exGet (·.1) (fun d n => (n, d)) exL exR 3 3 [] = [] := by decide
example : assembleTInner 0 exGet (·.1) (fun d n => (n, d)) exL exR 3 3 [(some 1, some 0), (some 1, some 2)]
    = [(some "k", [2, 2]), (some "a", [20, 20]), (some "k", [2, 2]), (none, [7, 9])] := by decide +kernel

-- left join of an empty left table is `Table(())`; otherwise unmatched left rows are padded on the right
example : assembleTLeft 0 exGet (·.1) (fun d n => (n, d)) exL exR 0 3 [] = ([] : List (Option String × List Nat)) := by decide
example : assembleTLeft 0 exGet (·.1) (fun d n => (n, d)) exL exR 3 3 [(some 0, none), (some 1, some 0)]
    = [(some "k", [1, 2]), (some "a", [10, 20]), (some "k", [0, 2]), (none, [0, 7])] := by decide +kernel

-- one group of appends on buffers that already hold a row
example : emitRowTFull2 0 exGet exL exR [[1], [10], [0], [0]] 2 = [[1, 0], [10, 0], [0, 2], [0, 9]] := by decide +kernel

-- key tuples: composite key (k, a) of every left row
example : probeKeysTInner exGet (leftKeysTInner [(exL[0]!, exR[0]!), (exL[1]!, exR[1]!)]) 3 = [[1, 10], [2, 20], [1, 30]] := by decide +kernel

-- the shape hypotheses are satisfiable, and not trivially true
example : ∀ p ∈ [((some 1, some 0) : Pair), (some 1, some 2)], ShapeIn shapesTInner p := by simp [ShapeIn, shapesTInner]
example : ¬ ShapeIn shapesTInner (some 0, none) := by simp [ShapeIn, shapesTInner]
example : ShapeIn shapesTFull (none, some 1) ∧ ¬ ShapeIn shapesTLeft (none, some 1) := by simp [ShapeIn, shapesTFull, shapesTLeft]

-- window: per-row sums of the groups 2, 9, 2, 1, 9; the name `x_sum` is taken, so the column is called `x_sum2`
example : (windowColTWin (none : Option Int) id (fun _ s => "x_" ++ s) (fun rows n => (n, rows))
      (Group.uniquify (fun i => if i = 2 then "2" else "?")) (partition [2, 9, 2, 1, 9]) [2, 9, 2, 1, 9] 5
      [some 5, none, some 7, some 1, none] sumF "sum" ([], ["x_sum"])).toOption
    = some ([("x_sum2", [12, 0, 12, 1, 0])], ["x_sum2", "x_sum"]) := by decide +kernel

-- expand_to_rows: a key without group value is a KeyError, a short `row_keys` an IndexError
example : expandToRowsTWin [1, 2, 1] 3 [(1, 10), (2, 20)] = .ok [10, 20, 10] := by decide
example : expandToRowsTWin [1, 2] 2 [(1, 10)] = .error Err.key := by decide
example : expandToRowsTWin [1] 2 [(1, 10)] = .error Err.index := by decide

-- compute_group_values and aggregate_col on the partition of [2, 9, 2, 1, 9]
example : computeGroupValuesTWin (none : Option Int) id (partition [2, 9, 2, 1, 9]) [some 5, none, some 7, some 1, none] sumF
    = [(2, 12), (9, 0), (1, 1)] := by decide +kernel
example : aggregateColTAgg (none : Option Int) id (fun _ s => "x_" ++ s) (fun out n => (n, out))
      (Group.uniquify (fun _ => "?")) (partition [2, 9, 2, 1, 9]) [some 5, none, some 7, some 1, none] countF "count" ([], [])
    = ([("x_count", [2, 0, 1])], ["x_count"]) := by decide +kernel

-- key columns: window copies the columns, aggregate takes one row per group; two unnamed key columns get `key`, `key2`
example : (keyColsTWin (·.1) (·.2) (fun l n => (n, l)) (Group.uniquify (fun i => if i = 2 then "2" else "?"))
      [((none : Option String), [1, 2, 1]), (some "", [5, 6, 5])] []).1 = [("key", [1, 2, 1]), ("key2", [5, 6, 5])] := by decide +kernel
example : (keyColsTAgg 0 (·.1) (fun l n => (n, l)) (Group.uniquify (fun _ => "?"))
      (partition [[1, 5], [2, 6], [1, 5]]) [((some "a" : Option String), ()), (some "b", ())] []).1
    = [("a", [1, 2]), ("b", [5, 6])] := by decide +kernel

-- row_keys of a two-column key over three rows
example : rowKeysTWin 0 [] (overDataTWin id [[1, 2, 1], [5, 6, 5]]) 2 3 = [[1, 5], [2, 6], [1, 5]] := by decide +kernel
example : rowKeysTWin 0 [] (overDataTWin id [[1, 2, 1], [5, 6, 5]]) 2 3 = rowKeys [[1, 2, 1], [5, 6, 5]] 3 := by decide +kernel

-- the range hypotheses of the group-by theorems hold for what `partition` produces
example : ∀ g ∈ partition [2, 9, 2, 1, 9], ∀ i ∈ g.2, i < 5 := by decide +kernel

end examples

end Serif.Tie
