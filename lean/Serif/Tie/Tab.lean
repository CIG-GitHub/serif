/-
  Translation tie for the rectangularity of tables (C02): the length validation of `Table.__init__` (`_length` is the length of
  the first column, every column must have it, else SerifValueError), the guard of both column-replacement paths of
  `Table.__setattr__`, and `Table.__len__`, translated from the source (`Serif/Gen/TranslatedTab.lean`), accept exactly the
  rectangular inputs of the model (`Tab.rectB`, `Tab.Rect`): a table is constructed iff all columns have the length of the first,
  `len(t)` then is that length, and a replacement column is accepted iff it keeps the table rectangular.
  Supplementary (see Serif/Tie/Typing.lean).
-/
import Serif.Gen.TranslatedTab
import Serif.Proofs.Tab

namespace Serif.Tie
open Serif Serif.Tab Serif.Gen.TT

private theorem checkLoop_eq (length : Nat) (lens : List Nat) :
    lens.foldlM (fun (_ : Unit) l => if l != length then (.error Err.value : Except Err Unit) else .ok ()) ()
      = if lens.all (· == length) then .ok () else .error Err.value := by
  induction lens with
  | nil => rfl
  | cons l ls ih =>
    rw [List.foldlM_cons, List.all_cons]
    cases h : l == length
    · rw [bne, h]
      rfl
    · rw [bne, h]
      exact ih

/-- the validation of `Table.__init__` on the column lengths: all of them are the first one -/
theorem tableInitLengthT_eq (lens : List Nat) :
    tableInitLengthT lens = if lens.all (· == lens.headD 0) then .ok (lens.headD 0) else .error Err.value := by
  have hL : (if !lens.isEmpty then lens.headD 0 else 0) = lens.headD 0 := by cases lens <;> rfl
  rw [tableInitLengthT, checkLoop_eq, hL]
  cases lens.all (· == lens.headD 0) <;> rfl

/-- `Table(cols)` is constructed iff every column has the length of the first one; `_length` is that length (0 without columns) -/
theorem tableInitLength_eq {α : Type} (cols : List (List α)) :
    tableInitLengthT (cols.map List.length) =
      (if rectB cols ((cols.head?.map List.length).getD 0) then .ok ((cols.head?.map List.length).getD 0) else .error Err.value) := by
  rw [tableInitLengthT_eq, List.all_map]
  cases cols <;> rfl

/-- hence an accepted construction is rectangular, with `len(t)` rows -/
theorem tableInit_rect {α : Type} (cols : List (List α)) (n : Nat) (h : tableInitLengthT (cols.map List.length) = .ok n) :
    Rect cols n ∧ tableLenT cols.length false n = (if cols.isEmpty then 0 else n) := by
  rw [tableInitLength_eq] at h
  split at h
  next hr =>
    cases h
    refine ⟨(rectB_iff _ _).mp hr, ?_⟩
    cases cols <;> rfl
  next => cases h

/-- the guard of both column-replacement paths refuses exactly the values of another length (when the table has a column) -/
theorem setattr_refuses_iff (ncols lenValue n : Nat) (h : ncols ≠ 0) :
    setattrRefusesT ncols lenValue n = true ↔ lenValue ≠ n := by
  simp [setattrRefusesT, h]

/-- so replacing column `j` of a rectangular table with at least one column by an accepted value keeps it rectangular -/
theorem setattr_keeps_rect {α : Type} (cols : List (List α)) (n j : Nat) (v : List α) (hr : Rect cols n) (hne : cols ≠ [])
    (hacc : setattrRefusesT cols.length v.length n = false) : Rect (cols.set j v) n := by
  have hn0 : cols.length ≠ 0 := by simpa using hne
  have hl : v.length = n := by
    apply Decidable.not_not.mp
    intro hvn
    rw [(setattr_refuses_iff _ _ _ hn0).mpr hvn] at hacc
    cases hacc
  intro c hc
  rcases List.mem_or_eq_of_mem_set hc with h | h
  · exact hr c h
  · rw [h]
    exact hl

example : tableInitLengthT [2, 2, 2] = .ok 2 ∧ tableInitLengthT [2, 3] = .error Err.value ∧ tableInitLengthT [] = .ok 0 := by
  refine ⟨rfl, rfl, rfl⟩

end Serif.Tie
