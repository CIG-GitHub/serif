/-
  Translation tie for table assignment (C08, "a failed table assignment changes nothing"): `Table.__setitem__` and
  `Table._assign_cells` of src/serif/table.py, translated statement by statement by harness/tr/tableassign.py into
  `Serif/Gen/TranslatedTableAssign.lean`, equal the model's `tsetitem` (Serif/Model/Assign.lean) for all inputs.
  Steps 1–3 of `_assign_cells` (key normalisation, column resolution with Python's `x or y` on a column index that may be 0,
  the early return, cases A–D) are `plan`, the column loop is `writeCols`, and the wrapper (snapshot, `try`, the per-column
  restore loop — storage, dtype, memo, class; NOT the name —, re-raise) returns, for every `assign` that keeps the column
  names, `assign`'s table on success and the table exactly as it was otherwise; so `C08.table_atomic` & co. are theorems
  about the translated code.

  Oracles (fields of `Gen.TA.Ops`, instantiated with the model's own functions in `modelOps`): `self._column_map.get`
  (`findName` on the column names; `_build_column_map` has its own tie, Tie/ColumnMap.lean), `list(range(n)[slice])`
  (`sliceIndices`/`rangeList`), `list(value)` (`consumeAll`), `Vector.__setitem__` on one column (`setitem`, tied in
  Tie/SetItemBody.lean and by the correspondence leg), tuple indexing (`tupleIndex`), and the right-hand side object as a column assignment sees it.
  The class attribute is abstract (`clsOf`, `setCls`): the model's column state has no class component — the class is a function
  of the state there — so the theorems hold for every `clsOf`/`setCls`.
  Not translated (aliasing, C01/C15): `row_spec.copy()`, the up-front `check_writable` loop, the tracker calls of the restore loop.
  Supplementary (see Serif/Tie/Typing.lean).
-/
import Serif.Gen.TranslatedTableAssign
import Serif.Model.Assign
import Serif.Proofs.Assign

namespace Serif.Tie
open Serif Serif.Assign Serif.Gen.TA

/-- `list(range(n)[slice(a, b, c)])` as the model computes it inside `resolveCols` -/
def rangeSliceM (n : Nat) (a b c : Option Int) : Except Err (List Int) :=
  match sliceIndices a b c n with
  | .error e => .error e
  | .ok (s, e, st) => .ok (rangeList s e st)

/-- `list(value)` as the model computes it inside `plan` (CASE B) -/
def listOfM : TValue → Except Err (List Value)
  | .scalar _ => .error .type
  | .iter _ _ items _ ra => consumeAll items ra

/-- the right-hand side object as one column's `Vector.__setitem__` sees it (CASE A, CASE D flat list) -/
def rhsM : TValue → Value
  | .scalar c => .scalar c
  | .iter _ self items _ _ => seqOfValues self items

/-- Tie/SetItemBody.lean declares another `Serif.Tie.modelOps`: the two modules cannot be imported together. -/
def modelOps (P : Kind → Kind → Bool) (conv : Kind → Nat → Option Nat) (names : List (Option Nat)) : Ops where
  column_map_get := findName names
  range_slice := rangeSliceM
  list_of := listOfM
  rhs := rhsM
  vsetitem := setitem P conv false
  tuple_index := tupleIndex

section
variable {O : Ops} {names : List (Option Nat)} (hg : O.column_map_get = findName names)
include hg

theorem lookupCol_eq (id lid : Nat) :
    (if truthy (O.column_map_get id) then O.column_map_get id else O.column_map_get lid) =
      lookupCol names id lid := by
  rw [hg]
  unfold lookupCol
  cases h : findName names id with
  | none => simp [truthy]
  | some i =>
    cases i with
    | zero => simp [truthy]
    | succ k => simp [truthy]

theorem resolveItem_fold (items : List ColItem) (acc : List Int) :
    items.foldlM (resolveItemT O) acc =
      (match resolveItems names items with
       | .error e => .error e
       | .ok r => .ok (acc ++ r)) := by
  induction items generalizing acc with
  | nil => simp [resolveItems, pure, Except.pure]
  | cons c rest ih =>
    rw [List.foldlM_cons]
    cases c with
    | name id lid =>
      simp only [resolveItemT, resolveItems]
      rw [lookupCol_eq hg]
      cases lookupCol names id lid with
      | none => rfl
      | some i =>
        simp only [bind, Except.bind]
        rw [ih]
        cases resolveItems names rest with
        | error e => rfl
        | ok r => simp
    | int i =>
      simp only [resolveItemT, resolveItems, bind, Except.bind]
      rw [ih]
      cases resolveItems names rest with
      | error e => rfl
      | ok r => simp
    | other =>
      simp only [resolveItemT, resolveItems, bind, Except.bind]
      rw [ih]

/-- step 2 of `_assign_cells`, translated, is the model's `resolveCols` -/
theorem resolveColsT_eq (hr : O.range_slice = rangeSliceM) (n : Nat) (col : ColSpec) :
    resolveColsT O n col = resolveCols names n col := by
  cases col with
  | slice a b c =>
    simp only [resolveColsT, resolveCols, hr, rangeSliceM]
    cases sliceIndices a b c n with
    | error e => rfl
    | ok r => obtain ⟨s, e, st⟩ := r; rfl
  | int i => rfl
  | name id lid =>
    simp only [resolveColsT, resolveCols]
    rw [lookupCol_eq hg]
    cases lookupCol names id lid <;> rfl
  | list items =>
    simp only [resolveColsT, resolveCols]
    rw [resolveItem_fold hg]
    cases resolveItems names items with
    | error e => rfl
    | ok r => simp
  | bad => rfl

end

theorem loopWrites_from (vs : List Value) (targets : List Int) (k : Nat) (pre : List Value)
    (hk : pre.length = k) (hl : vs.length = targets.length) :
    loopWrites (fun i => (pre ++ vs)[i]?) (enumerateFrom k targets) = .ok (targets.zip vs) := by
  induction targets generalizing vs k pre with
  | nil => simp [enumerateFrom, loopWrites]
  | cons ci rest ih =>
    cases vs with
    | nil => simp at hl
    | cons v vs' =>
      simp only [enumerateFrom, loopWrites]
      have h1 : (pre ++ v :: vs')[k]? = some v := by
        rw [List.getElem?_append_right (by omega)]
        simp [hk]
      rw [h1]
      have h2 := ih vs' (k + 1) (pre ++ [v]) (by simp [hk]) (by simpa using hl)
      simp only [List.append_assoc, List.singleton_append] at h2
      rw [h2]
      rfl

/-- `for i, col_idx in enumerate(target_indices): … = vs[i]` after the length test pairs the columns with the values -/
theorem loopWrites_eq_zip (vs : List Value) (targets : List Int) (hl : vs.length = targets.length) :
    loopWrites (fun i => vs[i]?) (enumerate targets) = .ok (targets.zip vs) := by
  have := loopWrites_from vs targets 0 [] rfl hl
  simpa [enumerate] using this

theorem map_single {α β : Type} (f : α → β) (l : List α) (h : l.length = 1) :
    (match l[0]? with
     | none => none
     | some a => some [f a]) = some (l.map f) := by
  match l, h with
  | [a], _ => rfl

/-- `_assign_cells` up to the column loops, translated statement by statement, is the model's `plan` -/
theorem assignPlanT_eq_plan (P : Kind → Kind → Bool) (conv : Kind → Nat → Option Nat) (names : List (Option Nat))
    (n : Nat) (key : TKey) (value : TValue) :
    assignPlanT (modelOps P conv names) n key value = plan names n key value := by
  have hkey : keyIsInt = isIntKey := by
    funext k
    cases k <;> rfl
  have go : ∀ (row : Key) (col : ColSpec),
      (match resolveColsT (modelOps P conv names) n col with
       | .error e => .error e
       | .ok target_indices => assignBodyT (modelOps P conv names) row target_indices value)
        = plan.go names n value row col := by
    intro row col
    rw [resolveColsT_eq (names := names) rfl rfl]
    unfold plan.go
    cases resolveCols names n col with
    | error e => rfl
    | ok targets =>
      simp only
      unfold assignBodyT
      by_cases he : targets.isEmpty = true
      · -- the early return: no column addressed
        simp [he]
      · simp only [he, Bool.false_eq_true, if_false]
        cases value with
        | scalar c =>
          -- CASE A: a scalar goes to every addressed column
          simp [isScalarV, modelOps, rhsM]
        | iter kind self items nested ra =>
          simp only [isScalarV, Bool.false_eq_true, if_false]
          rw [hkey]
          cases hrow : isIntKey row with
          | true =>
            -- CASE B: one row; `list(value)` is consumed, then one item per column
            simp only [if_true, modelOps, listOfM]
            cases consumeAll items ra with
            | error e => rfl
            | ok vs =>
              simp only
              by_cases hl : vs.length = targets.length
              · simp [hl, loopWrites_eq_zip vs targets hl]
              · simp [hl]
          | false =>
            simp only [Bool.false_eq_true, if_false]
            cases kind with
            | table =>
              -- CASE C: a table on the right; column by column
              simp only [isTableV, if_true, itemsV]
              by_cases hl : items.length = targets.length
              · simp [hl, loopWrites_eq_zip items targets hl]
              · simp [hl]
            | listOrTuple =>
              -- CASE D: a list or tuple; on a single column a flat (or empty) one is that column's values, otherwise
              -- one item per column
              simp only [isTableV, isListOrTupleV, Bool.false_eq_true, if_false, if_true, itemsV, nestedFirstV,
                modelOps, rhsM]
              by_cases h1 : targets.length = 1
              · obtain ⟨ci, rfl⟩ : ∃ ci, targets = [ci] := by
                  match targets, h1 with
                  | [ci], _ => exact ⟨ci, rfl⟩
                by_cases hf : (items.isEmpty || !nested) = true
                · simp [hf]
                · by_cases hl : items.length = 1
                  · simp [hf, hl, loopWrites_eq_zip items [ci] (by simpa using hl)]
                  · simp [hf, hl]
              · by_cases hl : items.length = targets.length
                · simp [h1, hl, loopWrites_eq_zip items targets hl]
                · simp [h1, hl]
            | other =>
              -- anything else on the right: TypeError
              simp [isTableV, isListOrTupleV]
  unfold assignPlanT plan
  cases key with
  | badTuple => rfl
  | single row =>
    simp only [assignKeyT]
    exact go row (.slice none none none)
  | pair row col =>
    simp only [assignKeyT]
    exact go row col

theorem columnLoopT_eq_writeCols (P : Kind → Kind → Bool) (conv : Kind → Nat → Option Nat) (names : List (Option Nat))
    (row : Key) (ws : List (Int × Value)) (t : TState) :
    columnLoopT (modelOps P conv names) row ws t = writeCols P conv row ws t := by
  induction ws generalizing t with
  | nil => simp [columnLoopT, writeCols]
  | cons w rest ih =>
    obtain ⟨ci, v⟩ := w
    rw [writeCols_cons]
    simp only [columnLoopT, writeCellT, modelOps]
    cases tupleIndex t.cols.length ci with
    | none => rfl
    | some j =>
      simp only
      cases t.cols[j]? with
      | none => rfl
      | some col =>
        simp only
        cases hs : setitem P conv false row v col with
        | mk r col' =>
          cases r with
          | some e => rfl
          | none => simp only; exact ih _


/-- `Table._assign_cells` translated (plan, then the column loop, on the table's own column map) is what the model's
    `tsetitem` runs inside its wrapper -/
theorem assignCellsT_eq (P : Kind → Kind → Bool) (conv : Kind → Nat → Option Nat) (key : TKey) (value : TValue)
    (t : TState) :
    assignCellsT (modelOps P conv (t.cols.map (·.name))) key value t =
      match plan (t.cols.map (·.name)) t.cols.length key value with
      | .error e => (some e, t)
      | .ok (row, ws) => writeCols P conv row ws t := by
  unfold assignCellsT
  simp only [assignPlanT_eq_plan]
  cases plan (t.cols.map (·.name)) t.cols.length key value with
  | error e => rfl
  | ok rw => exact columnLoopT_eq_writeCols P conv _ rw.1 rw.2 t

/-- `_assign_cells` keeps every column's name (and so the number of columns), whatever the outcome -/
theorem assignCellsT_names (P : Kind → Kind → Bool) (conv : Kind → Nat → Option Nat) (key : TKey) (value : TValue)
    (t : TState) :
    (assignCellsT (modelOps P conv (t.cols.map (·.name))) key value t).2.cols.map (·.name) = t.cols.map (·.name) := by
  rw [assignCellsT_eq]
  cases plan (t.cols.map (·.name)) t.cols.length key value with
  | error e => rfl
  | ok rw =>
    have h2 := congrArg (List.map Prod.snd) (writeCols_shape P conv rw.1 rw.2 t)
    simpa [shape, List.map_map, Function.comp_def] using h2

/-- one iteration of the restore loop puts a column back, provided its name was not changed (the loop does not restore it) -/
theorem restoreColT_eq {κ : Type} [DecidableEq κ] (clsOf : VState → κ) (setCls : κ → VState → VState)
    (col col' : VState) (hn : col'.name = col.name) :
    restoreColT clsOf setCls col' col.data col.dtype col.fp (clsOf col) = col := by
  obtain ⟨d, dt, nm, fp⟩ := col
  obtain ⟨d', dt', nm', fp'⟩ := col'
  simp only at hn
  subst hn
  unfold restoreColT
  by_cases h : d' = d
  · subst h; simp
  · simp [h]

theorem restoreLoop_eq {κ : Type} [DecidableEq κ] (clsOf : VState → κ) (setCls : κ → VState → VState)
    (cols cols' : List VState) (hn : cols'.map (·.name) = cols.map (·.name)) :
    List.zipWith (fun col (b : List Cell × Option DType × Option (List Cell) × κ) =>
        restoreColT clsOf setCls col b.1 b.2.1 b.2.2.1 b.2.2.2) cols'
      (cols.map (fun col => (col.data, col.dtype, col.fp, clsOf col))) = cols := by
  induction cols generalizing cols' with
  | nil => cases cols' <;> simp
  | cons c cs ih =>
    cases cols' with
    | nil => simp at hn
    | cons c' cs' =>
      simp only [List.map_cons, List.cons.injEq] at hn
      simp only [List.map_cons, List.zipWith_cons_cons, restoreColT_eq clsOf setCls c c' hn.1, ih cs' hn.2]

/-- **the wrapper**: for every `assign` (the translated or any abstract `_assign_cells`) that, on this table, keeps every
    column's name — hence the number of columns —, `Table.__setitem__` translated (snapshot, try, per-column restore loop,
    re-raise) returns `assign`'s table on success, and on any exception that exception with the table exactly as it was -/
theorem tableSetitemT_wrap {κ : Type} [DecidableEq κ] (clsOf : VState → κ) (setCls : κ → VState → VState)
    (assign : TState → Option Err × TState) (t : TState)
    (hn : (assign t).2.cols.map (·.name) = t.cols.map (·.name)) :
    tableSetitemT clsOf setCls assign t =
      (match assign t with
       | (some e, _) => (some e, t)
       | (none, t') => (none, t')) := by
  unfold tableSetitemT
  cases h : assign t with
  | mk r t' =>
    rw [h] at hn
    cases r with
    | none => rfl
    | some e =>
      simp only
      have := restoreLoop_eq clsOf setCls t.cols t'.cols hn
      simp only [this]

/-- **`Table.__setitem__` = `tsetitem`**: the translated wrapper around the translated `_assign_cells` (with the model's
    `Vector.__setitem__`, column map, `range`, `list` as oracles) is the model's `tsetitem`, whatever the class attribute
    is (`clsOf`, `setCls`) -/
theorem tableSetitemT_eq_tsetitem {κ : Type} [DecidableEq κ] (clsOf : VState → κ) (setCls : κ → VState → VState)
    (P : Kind → Kind → Bool) (conv : Kind → Nat → Option Nat) (key : TKey) (value : TValue) (t : TState) :
    tableSetitemT clsOf setCls (fun t => assignCellsT (modelOps P conv (t.cols.map (·.name))) key value t) t
      = tsetitem P conv key value t := by
  -- `by exact`, so that the goal fixes `assign` before the argument is elaborated; given as a plain term, `assign` is
  -- read off it with the names of this `t` filled in — not the function in the goal — and the `rw` finds no instance
  rw [tableSetitemT_wrap _ _ _ _ (by exact assignCellsT_names P conv key value t)]
  simp only [assignCellsT_eq]
  unfold tsetitem
  cases plan (t.cols.map (·.name)) t.cols.length key value <;> rfl

/-- so the atomicity theorem of C08 is a theorem about the translated code -/
theorem tableSetitemT_atomic {κ : Type} [DecidableEq κ] (clsOf : VState → κ) (setCls : κ → VState → VState)
    (P : Kind → Kind → Bool) (conv : Kind → Nat → Option Nat) (key : TKey) (value : TValue) (t : TState) (e : Err)
    (h : (tableSetitemT clsOf setCls (fun t => assignCellsT (modelOps P conv (t.cols.map (·.name))) key value t) t).1 = some e) :
    (tableSetitemT clsOf setCls (fun t => assignCellsT (modelOps P conv (t.cols.map (·.name))) key value t) t).2 = t := by
  rw [tableSetitemT_eq_tsetitem] at h ⊢
  exact tsetitem_err_unchanged P conv h


private def cA : VState := ⟨[⟨.ty .int, 1⟩, ⟨.ty .int, 2⟩], some ⟨.int, false⟩, some 1, some []⟩
private def cB : VState := ⟨[⟨.ty .str, 3⟩, ⟨.ty .str, 4⟩], some ⟨.str, false⟩, some 2, none⟩
private def nine : Value := .scalar ⟨.ty .int, 9⟩
private def five : Value := .scalar ⟨.ty .int, 5⟩
private def conv1 : Kind → Nat → Option Nat := fun _ u => some (u + 100)
private def ops2 : Ops := modelOps genP conv1 [some 1, some 2]
/-- the class of a column follows its dtype kind -/
private def clsK (s : VState) : Option Kind := s.dtype.map (·.kind)

-- Python's `or` on index 0: `t[:, 'a']` where 'a' is column 0 and 'A'.lower() is unknown -> the lookup falls through to the
-- second `get` and raises SerifKeyError; column 1 is found by the first `get`; a lower-cased hit on column 0 is found
example : resolveColsT ops2 2 (.name 1 7) = .error .key ∧ resolveColsT ops2 2 (.name 2 7) = .ok [1]
    ∧ resolveColsT ops2 2 (.name 7 1) = .ok [0] := by decide +kernel
-- tuple of names / ints / something else (skipped), negative index kept as it is; the slice form; a bad column key
example : resolveColsT ops2 2 (.list [.name 2 2, .other, .int (-1), .name 7 1]) = .ok [1, -1, 0]
    ∧ resolveColsT ops2 2 (.list [.name 2 2, .name 7 7]) = .error .key
    ∧ resolveColsT ops2 2 (.slice none none (some (-1))) = .ok [1, 0]
    ∧ resolveColsT ops2 2 .bad = .error .type := by decide +kernel
-- CASE B `t[0] = [9, 5]`; CASE D flat list on one column `t[:, 1] = [9, 5]`; shape mismatch; unsupported value; bad tuple key
example : assignPlanT ops2 2 (.single (.int 0)) (.iter .listOrTuple ⟨.ty .list, 7⟩ [nine, five] false none)
      = .ok (.int 0, [(0, nine), (1, five)])
    ∧ assignPlanT ops2 2 (.pair (.slice none none none) (.int 1)) (.iter .listOrTuple ⟨.ty .list, 7⟩ [nine, five] false none)
      = .ok (.slice none none none, [(1, .seq ⟨.ty .list, 7⟩ [⟨.ty .int, 9⟩, ⟨.ty .int, 5⟩] .ok none)]) := by decide +kernel
example : assignPlanT ops2 2 (.single (.slice none none none)) (.iter .listOrTuple ⟨.ty .list, 7⟩ [nine] true none) = .error .value
    ∧ assignPlanT ops2 2 (.single (.slice none none none)) (.iter .other ⟨.ty .dict, 7⟩ [nine, five] false none) = .error .type
    ∧ assignPlanT ops2 2 (.single (.int 0)) (.iter .other ⟨.ty .dict, 7⟩ [nine, five] false (some 2)) = .error .other := by
  decide +kernel
example : assignPlanT ops2 2 .badTuple (.scalar ⟨.ty .int, 9⟩) = .error .key
    ∧ assignPlanT ops2 2 (.pair (.int 0) (.list [])) (.scalar ⟨.ty .int, 9⟩) = .ok (.int 0, []) := by decide +kernel
-- `t[0] = [9, 5]` on an int and a str column: the translated `_assign_cells` alone stops at the second column with the first one
-- written; the translated wrapper hands back the table as it was (storage, dtype, memo) and the same exception
example :
    assignCellsT ops2 (.single (.int 0)) (.iter .listOrTuple ⟨.ty .list, 7⟩ [nine, five] false none) ⟨[cA, cB]⟩
      = (some .type, ⟨[{ cA with data := [⟨.ty .int, 9⟩, ⟨.ty .int, 2⟩], fp := none }, cB]⟩)
    ∧ tableSetitemT clsK (fun _ s => s)
        (fun t => assignCellsT (modelOps genP conv1 (t.cols.map (·.name))) (.single (.int 0))
          (.iter .listOrTuple ⟨.ty .list, 7⟩ [nine, five] false none) t) ⟨[cA, cB]⟩
      = (some .type, ⟨[cA, cB]⟩) := by decide +kernel
-- a successful one: `t[0, 'a'] = 2.5` promotes column 0 to float (old elements converted), memo dropped
example :
    tableSetitemT clsK (fun _ s => s)
        (fun t => assignCellsT (modelOps genP conv1 (t.cols.map (·.name))) (.pair (.int 0) (.name 7 1)) (.scalar ⟨.ty .float, 8⟩) t)
        ⟨[cA, cB]⟩
      = (none, ⟨[⟨[⟨.ty .float, 8⟩, ⟨.ty .float, 102⟩], some ⟨.float, false⟩, some 1, none⟩, cB]⟩) := by decide +kernel
-- the hypothesis of `tableSetitemT_wrap` is satisfiable by an `assign` that is not the model's: one that wrecks storage, dtype and
-- memo of every column and raises — everything is put back; and it is needed: an `assign` that renames a column is NOT undone
example :
    let wreck : TState → Option Err × TState := fun t => (some .other, ⟨t.cols.map (fun c => { c with data := [], dtype := none, fp := some [] })⟩)
    (wreck ⟨[cA, cB]⟩).2.cols.map (·.name) = [some 1, some 2]
    ∧ tableSetitemT clsK (fun _ s => s) wreck ⟨[cA, cB]⟩ = (some .other, ⟨[cA, cB]⟩) := by decide +kernel
example :
    let rename : TState → Option Err × TState := fun t => (some .other, ⟨t.cols.map (fun c => { c with name := none })⟩)
    tableSetitemT clsK (fun _ s => s) rename ⟨[cA, cB]⟩ ≠ (some .other, ⟨[cA, cB]⟩) := by decide +kernel

end Serif.Tie
