/-
  Translation tie for the element hash of fingerprints (C16): `Vector._hash_element` — the whole dispatch: None, objects with a
  callable `fingerprint`, float / NaN, set / list / tuple (member hashes, a set's in ascending order, folded from the starting value
  of the kind and length), hashable objects, the `hash(repr(x))` fallback — with `_is_hashable`, `Vector._compute_fingerprint_full`
  and `Vector._invalidate_fp`, translated statement by statement from the source (`Serif/Gen/TranslatedHashElem.lean`, written by
  harness/tr/hashelem.py on every run), are the model's `FP.Elem.hash` / `FP.fpElems` (Model/Fingerprint.lean).

  A Python object is the record of the interpreter's answers to the questions `_hash_element` asks (`Gen.THE.PyObj`); `toElem` reads
  such an object as the model's element tree `FP.Elem` (the abstraction the C16 harness applies in `_wire_tree`): a scalar is a leaf
  carrying its hash (None / NaN: the literals `Gen.NONE_HASH` / `Gen.NAN_HASH` the model reads from the source), a container is
  `.seq kind members`, a set's members in ascending hash order.  `hashElement_eq` holds for every object whose containers have a
  (kind, length) the model's table of starting values `Gen.fpSeeds` covers (`tabulated`: kinds 1–3, at most 6 members) — the model
  has no starting value beyond the table (`FP.seedOf` answers 0 there), so this restriction is the model's, not the translation's —
  and for every `sort` that meets the specification of `list.sort()` on ints (`SortSpec`: ascending rearrangement).
  The rolling loops with the element hashes as inputs and the memo logic are tied in Serif/Tie/Fingerprint.lean; the starting
  value translated here is proved to be the one translated there (`Gen.T.hashSequenceSeedT`) by unfolding, so a changed multiplier
  in the source is followed by both.  Supplementary (see Serif/Tie/Typing.lean).
-/
import Serif.Gen.TranslatedHashElem
import Serif.Tie.Fingerprint
import Serif.Proofs.Sort

namespace Serif.Tie
open Serif Serif.Gen.THE

/-- what is assumed of the oracle `list.sort()` on ints -/
def SortSpec (sort : List Int → List Int) : Prop :=
  ∀ l, (sort l).Pairwise (· ≤ ·) ∧ (sort l).Perm l

/-- the order the model expects a set's members in: ascending hash -/
def sortByHash (es : List FP.Elem) : List FP.Elem := es.mergeSort (fun a b => decide (a.hash ≤ b.hash))

mutual
/-- the element of the model (`FP.Elem`) a Python object is -/
def toElem : PyObj → FP.Elem
  | .mk a items =>
    if a.isNone then .leaf (Gen.NONE_HASH : Int)
    else if a.hasattrFingerprint && a.callableFingerprint then .leaf a.fingerprint
    else if a.isinstance .float then .leaf (if a.isnan then (Gen.NAN_HASH : Int) else a.hash)
    else if a.isinstance .set then .seq 1 (sortByHash (toElems items))
    else if a.isinstance .tuple then .seq 2 (toElems items)
    else if a.isinstance .list then .seq 3 (toElems items)
    else if a.hashRaises then .leaf a.reprHash
    else .leaf a.hash
def toElems : List PyObj → List FP.Elem
  | [] => []
  | x :: xs => toElem x :: toElems xs
end

mutual
/-- every container inside the element has a kind and a length the model's table of starting values covers -/
def tabulated : FP.Elem → Bool
  | .leaf _ => true
  | .seq k es => (k == 1 || k == 2 || k == 3) && decide (es.length ≤ 6) && tabulatedList es
def tabulatedList : List FP.Elem → Bool
  | [] => true
  | e :: es => tabulated e && tabulatedList es
end

theorem tabulatedList_iff (es : List FP.Elem) : tabulatedList es = true ↔ ∀ e ∈ es, tabulated e = true := by
  induction es with
  | nil => simp [tabulatedList]
  | cons e es ih => simp [tabulatedList, ih]

theorem tabulated_seq {k : Nat} {es : List FP.Elem} (h : tabulated (.seq k es) = true) : tabulatedList es = true := by
  rw [tabulated, Bool.and_eq_true] at h
  exact h.2

theorem tabulatedList_perm {l l' : List FP.Elem} (p : l.Perm l') (h : tabulatedList l = true) : tabulatedList l' = true :=
  (tabulatedList_iff _).mpr fun e he => (tabulatedList_iff _).mp h e (p.mem_iff.mpr he)

theorem toElems_eq_map (xs : List PyObj) : toElems xs = xs.map toElem := by
  induction xs with
  | nil => rfl
  | cons x xs ih => simp [toElems, ih]

theorem hashElementListT_eq_map (P B : Int) (sort : List Int → List Int) (xs : List PyObj) :
    hashElementListT P B sort xs = xs.map (hashElementT P B sort) := by
  induction xs with
  | nil => rfl
  | cons x xs ih => simp [hashElementListT, ih]

theorem sortByHash_perm (es : List FP.Elem) : (sortByHash es).Perm es := List.mergeSort_perm _ _

theorem intLE_total : Sort.TotalPreorder (fun a b : Int => decide (a ≤ b)) where
  total a b := by simpa using Int.le_total a b
  trans _ _ _ h1 h2 := decide_eq_true (Int.le_trans (of_decide_eq_true h1) (of_decide_eq_true h2))

theorem pairwise_mergeSort_key {α : Type} (f : α → Int) (l : List α) :
    (l.mergeSort (fun a b => decide (f a ≤ f b))).Pairwise (fun a b => f a ≤ f b) :=
  (List.pairwise_mergeSort (le := fun a b => decide (f a ≤ f b))
    (fun a b c => intLE_total.trans (f a) (f b) (f c)) (fun a b => by simpa using intLE_total.total (f a) (f b)) l).imp
    of_decide_eq_true

theorem sortByHash_hashes (sort : List Int → List Int) (hs : SortSpec sort) (es : List FP.Elem) :
    (sortByHash es).map FP.Elem.hash = sort (es.map FP.Elem.hash) :=
  -- two ascending rearrangements of the same hashes
  List.Perm.eq_of_pairwise (le := (· ≤ ·)) (fun _ _ _ _ => Int.le_antisymm)
    (List.pairwise_map.mpr (pairwise_mergeSort_key FP.Elem.hash es)) (hs _).1
    (((sortByHash_perm es).map _).trans (hs _).2.symm)

/-- the container branch's loop (`h = (h * B + item_hash) % P`) from the translated starting value of kind `k` and this length is
    the model's hash of the container -/
theorem container_eq (k : Nat) (es : List FP.Elem) (ht : tabulated (.seq k es) = true) (s0 : Int)
    (hs0 : s0 = Gen.T.hashSequenceSeedT FP.P k (es.map FP.Elem.hash).length) :
    (es.map FP.Elem.hash).foldl (fun (h : Int) (item_hash : Int) => Int.fmod ((h * FP.B) + item_hash) FP.P) s0
    = (FP.Elem.seq k es).hash := by
  simp only [tabulated, Bool.and_eq_true, Bool.or_eq_true, beq_iff_eq, decide_eq_true_eq] at ht
  have hk : k ∈ [1, 2, 3] := by simpa [or_assoc] using ht.1.1
  have hn : es.length ∈ List.range 7 := List.mem_range.mpr (Nat.lt_succ_of_le ht.1.2)
  rw [foldl_fmod_eq, hs0, List.length_map, FP.Elem.hash_seq, seed_eq_small k hk _ hn]

/-- the step of the nested induction: `ih` is the claim for every member -/
theorem hashElementList_of (sort : List Int → List Int) (xs : List PyObj)
    (ih : ∀ x ∈ xs, tabulated (toElem x) = true → hashElementT FP.P FP.B sort x = (toElem x).hash)
    (ht : tabulatedList (toElems xs) = true) :
    hashElementListT FP.P FP.B sort xs = (toElems xs).map FP.Elem.hash := by
  rw [toElems_eq_map] at ht ⊢
  rw [hashElementListT_eq_map, List.map_map]
  exact List.map_congr_left fun x hx => ih x hx ((tabulatedList_iff _).mp ht _ (List.mem_map_of_mem hx))

/-- `_is_hashable(x)` is "`hash(x)` does not raise" -/
theorem isHashable_eq (x : PyObj) : isHashableT x = !x.ans.hashRaises := by
  unfold isHashableT
  cases x.ans.hashRaises <;> rfl

/-- the dispatch of `_hash_element` on one object, in source order (the order of the tests decides), given the members' hashes -/
theorem hashElement_mk (sort : List Int → List Int) (hs : SortSpec sort) (a : PyAns) (items : List PyObj)
    (ih : tabulatedList (toElems items) = true → hashElementListT FP.P FP.B sort items = (toElems items).map FP.Elem.hash)
    (ht : tabulated (toElem (.mk a items)) = true) :
    hashElementT FP.P FP.B sort (.mk a items) = (toElem (.mk a items)).hash := by
  unfold hashElementT
  unfold toElem at ht ⊢
  simp only [PyObj.ans, apply_ite FP.Elem.hash]
  -- the scalar tests are the same on both sides, in the same order
  refine ite_congr rfl (fun _ => by decide) (fun h1 => ?_)
  refine ite_congr rfl (fun _ => rfl) (fun h2 => ?_)
  refine ite_congr rfl (fun _ => ite_congr rfl (fun _ => by decide) (fun _ => rfl)) (fun h3 => ?_)
  -- from here on `toElem x` may be a container, and `ht` speaks of its members
  rw [if_neg h1, if_neg h2, if_neg h3] at ht
  rcases Bool.eq_false_or_eq_true (a.isinstance PyCls.set) with h4 | h4
  · -- a set: the members' hashes, sorted
    simp only [h4, Bool.true_or, ↓reduceIte] at ht ⊢
    rw [ih (tabulatedList_perm (sortByHash_perm _) (tabulated_seq ht)), ← sortByHash_hashes sort hs]
    exact container_eq 1 _ ht _ rfl
  simp only [h4, Bool.false_eq_true, Bool.false_or, ↓reduceIte] at ht ⊢
  rcases Bool.eq_false_or_eq_true (a.isinstance PyCls.tuple) with h5 | h5
  · simp only [h5, Bool.or_true, ↓reduceIte] at ht ⊢
    rw [ih (tabulated_seq ht)]
    exact container_eq 2 _ ht _ rfl
  simp only [h5, Bool.false_eq_true, Bool.or_false, ↓reduceIte] at ht ⊢
  rcases Bool.eq_false_or_eq_true (a.isinstance PyCls.list) with h6 | h6
  · simp only [h6, ↓reduceIte] at ht ⊢
    rw [ih (tabulated_seq ht)]
    exact container_eq 3 _ ht _ rfl
  simp only [h6, Bool.false_eq_true, ↓reduceIte, isHashable_eq, PyObj.ans]
  cases a.hashRaises <;> rfl

/-- **the translated `Vector._hash_element` is the model's `Elem.hash`**, for every Python object (any nesting of sets, lists and
    tuples, any answers of the interpreter — the order of the tests decides) whose containers are within the model's table of
    starting values, and every `sort` that sorts -/
theorem hashElement_eq (sort : List Int → List Int) (hs : SortSpec sort) :
    (x : PyObj) → tabulated (toElem x) = true → hashElementT FP.P FP.B sort x = (toElem x).hash :=
  PyObj.rec (motive_1 := fun x => tabulated (toElem x) = true → hashElementT FP.P FP.B sort x = (toElem x).hash)
    (motive_2 := fun xs => ∀ x ∈ xs, tabulated (toElem x) = true → hashElementT FP.P FP.B sort x = (toElem x).hash)
    (fun a items ih => hashElement_mk sort hs a items (hashElementList_of sort items ih))
    (fun _ h => nomatch h) (fun _ _ ihx ihxs => List.forall_mem_cons.mpr ⟨ihx, ihxs⟩)

/-- … and the comprehension `[Vector._hash_element(elem) for elem in x]` yields the model's hashes of the members -/
theorem hashElementList_eq (sort : List Int → List Int) (hs : SortSpec sort) :
    (xs : List PyObj) → tabulatedList (toElems xs) = true →
      hashElementListT FP.P FP.B sort xs = (toElems xs).map FP.Elem.hash :=
  fun xs => hashElementList_of sort xs (fun x _ => hashElement_eq sort hs x)

/-- **the translated `Vector._compute_fingerprint_full`** — the loop over the elements with the translated `_hash_element` inside —
    **is the model's fingerprint of the element trees** (`FP.fpElems`), for every vector of objects -/
theorem computeFingerprintFull_elems_eq (sort : List Int → List Int) (hs : SortSpec sort) (xs : List PyObj)
    (ht : tabulatedList (toElems xs) = true) :
    computeFingerprintFullT FP.P FP.B sort xs = FP.fpElems (toElems xs) := by
  have hmap : xs.map (hashElementT FP.P FP.B sort) = (toElems xs).map FP.Elem.hash := by
    rw [← hashElementListT_eq_map]
    exact hashElementList_eq sort hs xs ht
  unfold FP.fpElems
  rw [← computeFingerprintFull_eq, ← hmap]
  unfold computeFingerprintFullT Gen.T.computeFingerprintFullT
  rw [List.foldl_map]
  rfl

theorem invalidateFp_eq (fp : Option Int) : invalidateFpT fp = none := rfl

/-- `_invalidate_fp` is what the model's write does to the written vector's memo (`Heap.setVec`) … -/
theorem invalidateFp_setVec (h : Heap) (o : Nat) (v v0 : VecVal) (fp : Option Int) (ho : h.obj o = some (.vec v0 fp)) :
    (h.setVec o v).objs o = some (.vec v (invalidateFpT fp)) := by
  simp [Heap.setVec, ho, Heap.upd, invalidateFpT]

/-- … and what `Table.fingerprint` does before it asks `Vector.fingerprint` (the memo logic tied in Tie/Fingerprint.lean) -/
theorem tableFingerprint_invalidates (compute : Int) (fp : Option Int) :
    Gen.T.tableFingerprintT compute fp = Gen.T.vectorFingerprintT compute (invalidateFpT fp) := rfl

/-- `SortSpec` is satisfiable: merge sort meets it -/
theorem sortSpec_mergeSort : SortSpec (fun l => l.mergeSort (fun a b => decide (a ≤ b))) :=
  fun l => ⟨pairwise_mergeSort_key id l, List.mergeSort_perm _ _⟩

/-- an insertion sort the kernel can run (for the examples below) -/
def insertInt (a : Int) : List Int → List Int
  | [] => [a]
  | b :: bs => if a ≤ b then a :: b :: bs else b :: insertInt a bs
def isort : List Int → List Int
  | [] => []
  | a :: as => insertInt a (isort as)

theorem insertInt_eq_ins (a : Int) (l : List Int) : insertInt a l = ins (fun a b => decide (a ≤ b)) a l := by
  induction l with
  | nil => rfl
  | cons b bs ih => simp only [insertInt, ins, ih, decide_eq_true_eq]

theorem isort_eq_isort (l : List Int) : isort l = Serif.isort (fun a b => decide (a ≤ b)) l := by
  induction l with
  | nil => rfl
  | cons a as ih =>
    rw [isort, ih, insertInt_eq_ins]
    rfl

/-- … and so does the insertion sort -/
theorem sortSpec_isort : SortSpec isort := fun l => by
  rw [isort_eq_isort]
  exact ⟨(Sort.isort_sorted intLE_total l).imp of_decide_eq_true, Sort.isort_perm _ l⟩

section examples

/-- the answers about an int-like scalar of hash `h` -/
def scalarAns (h : Int) : PyAns :=
  { isNone := false, hasattrFingerprint := false, callableFingerprint := false, fingerprint := 0, isinstance := fun _ => false,
    isnan := false, hashRaises := false, hash := h, reprHash := 0 }
def pyInt (h : Int) : PyObj := .mk (scalarAns h) []
def pyNone : PyObj := .mk { scalarAns 0 with isNone := true } []
def pyNan : PyObj := .mk { scalarAns 0 with isinstance := fun c => c == .float, isnan := true } []
def pyFloat (h : Int) : PyObj := .mk { scalarAns h with isinstance := fun c => c == .float } []
/-- a nested vector / table: an object with a callable `fingerprint` -/
def pyVec (fp : Int) (elems : List PyObj) : PyObj :=
  .mk { scalarAns 0 with hasattrFingerprint := true, callableFingerprint := true, fingerprint := fp, hashRaises := true } elems
def pyCont (c : PyCls) (xs : List PyObj) : PyObj := .mk { scalarAns 0 with isinstance := fun d => d == c, hashRaises := c != .tuple } xs
/-- an unhashable object that is no container (a dict, say) -/
def pyDict (reprHash : Int) : PyObj := .mk { scalarAns 0 with isinstance := fun c => c == .dict, hashRaises := true, reprHash := reprHash } []
/-- a frozenset is hashable and not one of the tested classes: `hash(x)` -/
def pyFrozenset (h : Int) (xs : List PyObj) : PyObj := .mk { scalarAns h with isinstance := fun c => c == .frozenset } xs

-- the dispatch, evaluated: None, NaN, a float, a nested vector, a dict, a frozenset
example : hashElementT FP.P FP.B isort pyNone = 11400714819323198485 := by decide +kernel
example : hashElementT FP.P FP.B isort pyNan = 16045690984503098046 := by decide +kernel
example : hashElementT FP.P FP.B isort (pyFloat 42) = 42 := by decide +kernel
example : hashElementT FP.P FP.B isort (pyVec 777 [pyInt 1]) = 777 := by decide +kernel
example : hashElementT FP.P FP.B isort (pyDict 99) = 99 := by decide +kernel
example : hashElementT FP.P FP.B isort (pyFrozenset 5 [pyInt 1]) = 5 := by decide +kernel
-- `()`, `[]`, `set()` hash to the starting values of the table
example : hashElementT FP.P FP.B isort (pyCont .tuple []) = FP.seedOf 2 0 := by decide +kernel
example : hashElementT FP.P FP.B isort (pyCont .list []) = FP.seedOf 3 0 := by decide +kernel
example : hashElementT FP.P FP.B isort (pyCont .set []) = FP.seedOf 1 0 := by decide +kernel
-- `(1, [2, None], {9, 3})`: the set's members are folded in ascending order, whatever order iteration yields them in
example : hashElementT FP.P FP.B isort (pyCont .tuple [pyInt 1, pyCont .list [pyInt 2, pyNone], pyCont .set [pyInt 9, pyInt 3]])
    = (FP.Elem.seq 2 [.leaf 1, .seq 3 [.leaf 2, .leaf (Gen.NONE_HASH : Int)], .seq 1 [.leaf 3, .leaf 9]]).hash := by decide +kernel
example : hashElementT FP.P FP.B isort (pyCont .set [pyInt 9, pyInt 3]) = hashElementT FP.P FP.B isort (pyCont .set [pyInt 3, pyInt 9]) := by
  decide +kernel
example : hashElementT FP.P FP.B isort (pyCont .list [pyInt 9, pyInt 3]) ≠ hashElementT FP.P FP.B isort (pyCont .list [pyInt 3, pyInt 9]) := by
  decide +kernel
-- `[0]`, `(0,)`, `{0}`, `0` are four different values
example : (List.map (hashElementT FP.P FP.B isort) [pyCont .list [pyInt 0], pyCont .tuple [pyInt 0], pyCont .set [pyInt 0], pyInt 0]).Nodup := by
  decide +kernel
-- the vector `[None, (1, 2), nan]`
example : computeFingerprintFullT FP.P FP.B isort [pyNone, pyCont .tuple [pyInt 1, pyInt 2], pyNan]
    = FP.fpElems [.leaf (Gen.NONE_HASH : Int), .seq 2 [.leaf 1, .leaf 2], .leaf (Gen.NAN_HASH : Int)] := by decide +kernel
-- the hypothesis of `hashElement_eq` is satisfiable on a nested object
example : tabulated (toElem (pyCont .tuple [pyInt 1, pyCont .list [pyInt 2, pyNone], pyNan])) = true := by decide +kernel
example : toElem (pyCont .tuple [pyInt 1, pyCont .list [pyInt 2, pyNone], pyNan])
    = .seq 2 [.leaf 1, .seq 3 [.leaf 2, .leaf (Gen.NONE_HASH : Int)], .leaf (Gen.NAN_HASH : Int)] := by rfl
-- the theorem applied to a set inside a tuple, `({9, 3}, 1)`: its hypotheses hold
example : hashElementT FP.P FP.B isort (pyCont .tuple [pyCont .set [pyInt 9, pyInt 3], pyInt 1])
    = (toElem (pyCont .tuple [pyCont .set [pyInt 9, pyInt 3], pyInt 1])).hash :=
  hashElement_eq isort sortSpec_isort _ (by
    simp [toElem, toElems, pyCont, pyInt, scalarAns, sortByHash, tabulated, tabulatedList]
    exact tabulatedList_perm (List.mergeSort_perm _ _).symm rfl)
-- … and it is needed: the model has no starting value for a tuple of seven
example : hashElementT FP.P FP.B isort (pyCont .tuple (List.replicate 7 (pyInt 0))) ≠ (FP.Elem.seq 2 (List.replicate 7 (.leaf 0))).hash := by
  decide +kernel

end examples

end Serif.Tie
